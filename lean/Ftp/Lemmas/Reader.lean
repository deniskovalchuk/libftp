import Ftp.Spec.Reader
import Ftp.Spec.Wire
import Ftp.Lemmas.ReaderTotal
/-
  The control-channel reader on a stream of well-formed lines (C01): which value each stage returns and what stays unread.
  (What holds for every input - termination, the bound on the buffer, the progress of the transport - is in ReaderTotal.)
  The second half (namespace `Ftp.Spec`) is the reference decoder `Spec.decodeStream` on the same encoded lines.

  The one complication is a CR LF pair that is cut between two deliveries: the line is then returned without its LF
  (`cut true l`) and the LF stays behind as the first unread byte (`lfIf true`).  Every lemma carries this as one Boolean
  `o` ("an orphan LF is owed"), so that the cut and the uncut case are one case: `cut o l ++ lfIf o = l.enc`.
-/
namespace Ftp.Reader
open Ftp.Props.C01
open Ftp.Ascii (lfIf)

/-- the line as `readLine` returns it: whole, or without the LF of its CR LF -/
def cut (o : Bool) (l : Line) : Bytes := l.text ++ (if o then [CR] else if l.crlf then [CR, LF] else [LF])

theorem cut_lfIf {o : Bool} {l : Line} (h : o = true → l.crlf = true) : cut o l ++ lfIf o = l.enc := by
  cases o
  · simp [cut, lfIf, Line.enc]
  · simp [cut, lfIf, Line.enc, h rfl]

/-- `r` is the outcome of reading the line `l` off unread bytes `l.enc ++ rest` -/
def ReadsLine (l : Line) (rest : Bytes) (r : LineR × Bytes × Net) : Prop :=
  ∃ o buf' net', r = (.line (cut o l), buf', net') ∧ (o = true → l.crlf = true) ∧
    buf' ++ net'.stream = lfIf o ++ rest

theorem readLineF_line (l : Line) (hok : l.ok) (rest : Bytes) : ∀ (f : Nat) (buf : Bytes) (net : Net),
    buf ++ net.stream = l.enc ++ rest → net.stream.length < f → ReadsLine l rest (readLineF f buf net) := by
  obtain ⟨hc, hl, hlen⟩ := hok
  intro f
  induction f with
  | zero => intro _ _ _ h; omega
  | succ f ih =>
    intro buf net hs hf
    rw [Line.enc, List.append_assoc] at hs
    -- no terminator in the buffer yet: one more delivery, then the induction hypothesis
    have deliver : matchEol buf = none → buf.length ≤ l.text.length → net.stream ≠ [] →
        ReadsLine l rest (readLineF (f + 1) buf net) := fun hm hbl hne => by
      obtain ⟨s0, st, hst⟩ := List.exists_cons_of_ne_nil hne
      have hpos := gotOf_pos buf net (by omega)
      rw [readLineF_succ, hm]
      simp only [show ¬ buf.length ≥ maxLine by omega, if_false, hst]
      rw [← hst]
      exact ih (buf ++ net.stream.take (gotOf buf net))
        { net with stream := net.stream.drop (gotOf buf net), sizes := net.sizes.tail }
        (by simp only [List.append_assoc, List.take_append_drop, Line.enc]; exact hs)
        (by simp only [List.length_drop]; rw [hst] at hf ⊢; simp only [List.length_cons] at hf ⊢; omega)
    rcases List.append_eq_append_iff.mp hs with ⟨a, h1, h2⟩ | ⟨x, h1, h2⟩
    · refine deliver ?_ (by rw [h1]; simp) (by rw [h2]; cases l.crlf <;> simp)
      have := matchEol_append buf [] (fun h => hc (h1 ▸ List.mem_append_left _ h))
        (fun h => hl (h1 ▸ List.mem_append_left _ h))
      simpa [matchEol] using this
    · have hm := matchEol_append l.text x hc hl
      rw [← h1] at hm
      cases x with
      | nil =>
        refine deliver (by simpa [matchEol] using hm) (by rw [h1]; simp) ?_
        rw [List.nil_append] at h2
        rw [← h2]; cases l.crlf <;> simp
      | cons d c =>
        -- the buffer reaches into the terminator: `n` bytes of it are the line, `c'` is what stays buffered
        have done : ∀ (n : Nat) (o : Bool) (c' : Bytes), matchEol (d :: c) = some n → (o = true → l.crlf = true) →
            buf.take (l.text.length + n) = cut o l → buf.drop (l.text.length + n) = c' →
            c' ++ net.stream = lfIf o ++ rest →
            ReadsLine l rest (readLineF (f + 1) buf net) := fun n o c' hn ho ht hd hr => by
          rw [readLineF_succ, hm, hn]
          show ReadsLine l rest (.line (buf.take (l.text.length + n)), buf.drop (l.text.length + n), net)
          rw [ht, hd]
          exact ⟨o, _, _, rfl, ho, hr⟩
        cases hcrlf : l.crlf with
        | false =>
          simp only [hcrlf, Bool.false_eq_true, if_false, List.cons_append, List.nil_append, List.cons.injEq] at h2
          obtain ⟨rfl, h2⟩ := h2
          exact done 1 false c (by simp [matchEol]) (by simp) (by simp [h1, cut, hcrlf, List.take_length_add_append])
            (by simp [h1, List.drop_length_add_append]) (by simpa [lfIf] using h2.symm)
        | true =>
          simp only [hcrlf, if_true, List.cons_append, List.nil_append, List.cons.injEq] at h2
          obtain ⟨rfl, h2⟩ := h2
          cases c with
          | nil =>
            exact done 1 true [] (by simp [matchEol, cr_ne_lf]) (fun _ => hcrlf)
              (by simp [h1, cut, List.take_length_add_append]) (by simp [h1, List.drop_length_add_append])
              (by simpa [lfIf] using h2.symm)
          | cons e c =>
            simp only [List.cons_append, List.cons.injEq] at h2
            obtain ⟨rfl, h2⟩ := h2
            exact done 2 false c (by simp [matchEol, cr_ne_lf]) (by simp)
              (by simp [h1, cut, hcrlf, List.take_length_add_append]) (by simp [h1, List.drop_length_add_append])
              (by simpa [lfIf] using h2.symm)

theorem readLine_line (l : Line) (hok : l.ok) (rest buf : Bytes) (net : Net)
    (hs : buf ++ net.stream = l.enc ++ rest) : ReadsLine l rest (readLine buf net) :=
  readLineF_line l hok rest _ buf net hs (Nat.lt_succ_self _)

/-- the LF that a cut CR LF left behind is read as a line of its own -/
theorem readLine_orphan (rest buf : Bytes) (net : Net) (hs : buf ++ net.stream = LF :: rest) :
    ∃ buf' net', readLine buf net = (.line [LF], buf', net') ∧ buf' ++ net'.stream = rest := by
  obtain ⟨o, b', n', h1, h2, h3⟩ := readLine_line ⟨[], false⟩ ⟨by simp, by simp, by decide⟩ rest buf net hs
  cases o with
  | true => exact absurd (h2 rfl) (by simp)
  | false => exact ⟨b', n', h1, h3⟩

theorem parseStatus_append (t x : Bytes) (h : 3 ≤ t.length) : parseStatus (t ++ x) = parseStatus t := by
  unfold parseStatus
  rw [if_neg (by simp only [List.length_append]; omega), if_neg (by omega), List.take_append_of_le_length h]

theorem getD_append_lt (t x : Bytes) (i d : Nat) (h : i < t.length) : (t ++ x).getD i d = t.getD i d := by
  simp [List.getD, List.getElem?_append_left h]

theorem isLastLine_append (t x : Bytes) (code : Nat) (h : 4 ≤ t.length) :
    isLastLine (t ++ x) code = isLastLine t code := by
  unfold isLastLine
  have h1 : ¬ (t ++ x).length < 4 := by simp only [List.length_append]; omega
  have h2 : ¬ t.length < 4 := by omega
  simp only [h1, h2, if_false]
  rw [getD_append_lt t x 3 0 (by omega), parseStatus_append t x (by omega)]

theorem parseStatus_digits (code : Nat) (h1 : 100 ≤ code) (h2 : code ≤ 599) (x : Bytes) :
    parseStatus ((48 + code / 100) :: (48 + code / 10 % 10) :: (48 + code % 10) :: x) = some code := by
  have hd : isDigits [48 + code / 100, 48 + code / 10 % 10, 48 + code % 10] = true := by
    simp only [isDigits, isDigit, List.isEmpty_cons, Bool.not_false, List.all_cons, List.all_nil, Bool.and_true,
      Bool.true_and, Bool.and_eq_true, decide_eq_true_eq]
    unfold Byte
    omega
  have hv : decValue [48 + code / 100, 48 + code / 10 % 10, 48 + code % 10] = code := by
    simp only [decValue, List.foldl_cons, List.foldl_nil]
    omega
  simp only [parseStatus, List.length_cons, List.take_succ_cons, List.take_zero, parseU16_spec, hd, hv, true_and]
  rw [if_neg (by omega), if_pos (by omega)]

theorem isLastLine_of (t : Bytes) (code : Nat) (h4 : 4 ≤ t.length) (h3 : t.getD 3 0 = 32)
    (hps : parseStatus t = some code) : isLastLine t code = true := by
  unfold isLastLine
  have h : ¬ t.length < 4 := by omega
  simp only [h, if_false, h3, hps, bne_self_eq_false, Bool.false_eq_true, beq_self_eq_true]

/-- a line that is not the last one when whole is not the last one when it is read without its LF -/
theorem isLastLine_cut {o : Bool} {l : Line} {code : Nat} (ho : o = true → l.crlf = true)
    (h : isLastLine l.enc code = false) : isLastLine (cut o l) code = false := by
  by_cases h4 : 4 ≤ l.text.length
  · rw [Line.enc, isLastLine_append _ _ _ h4] at h
    rw [cut, isLastLine_append _ _ _ h4, h]
  · cases o with
    | false => simpa [cut, Line.enc] using h
    | true =>
      -- fewer than four bytes before the CR: the line is too short, or its fourth byte is the CR and not a space
      simp only [cut, if_true, isLastLine]
      by_cases hlen : (l.text ++ [CR]).length < 4
      · rw [if_pos hlen]
      · simp only [List.length_append, List.length_cons, List.length_nil] at hlen
        have h3 : l.text.length = 3 := by omega
        have : (l.text ++ [CR]).getD 3 0 = 13 := by
          rw [List.getD_eq_getElem?_getD, List.getElem?_append_right (Nat.le_of_eq h3)]
          simp [h3, CR]
        rw [if_neg (by simp only [List.length_append, List.length_cons, List.length_nil]; omega), this]
        rfl

theorem isLastLine_lf (code : Nat) : isLastLine [LF] code = false := by simp [isLastLine]

/-- `r` is the outcome of the loop when it stops at the line `last`, having accumulated `pre` before it -/
def ReadsTo (pre : Bytes) (last : Line) (rest : Bytes) (r : Option Bytes × Bool × Bytes × Net) : Prop :=
  ∃ o buf' net', r = (some (pre ++ cut o last), false, buf', net') ∧ (o = true → last.crlf = true) ∧
    buf' ++ net'.stream = lfIf o ++ rest

theorem multiF_lines (code : Nat) (last : Line) (hlast : last.ok) (h4 : 4 ≤ last.text.length)
    (hl : isLastLine last.text code = true) (rest : Bytes) :
    ∀ (f : Nat) (mids : List Line) (o : Bool) (acc buf : Bytes) (net : Net),
    (∀ m ∈ mids, m.ok ∧ isLastLine m.enc code = false) →
    buf ++ net.stream = lfIf o ++ ((mids.map Line.enc).flatten ++ (last.enc ++ rest)) →
    buf.length + net.stream.length < f →
    ReadsTo (acc ++ lfIf o ++ (mids.map Line.enc).flatten) last rest (multiF f code acc buf net) := by
  intro f
  induction f with
  | zero => intro _ _ _ _ _ _ _ h; omega
  | succ f ih =>
    intro mids o acc buf net hm hs hf
    cases o with
    | true =>
      obtain ⟨b', n', h1, h2⟩ := readLine_orphan _ buf net hs
      have := readLine_lt h1
      simp only [multiF, h1, isLastLine_lf, Bool.false_eq_true, if_false]
      simpa [lfIf] using ih mids false (acc ++ [LF]) b' n' hm (by simpa [lfIf] using h2) (by omega)
    | false =>
      simp only [lfIf, Bool.false_eq_true, if_false, List.nil_append, List.append_nil] at hs ⊢
      cases mids with
      | nil =>
        obtain ⟨o', b', n', h1, h2, h3⟩ := readLine_line last hlast rest buf net (by simpa using hs)
        have : isLastLine (cut o' last) code = true := by rw [cut, isLastLine_append _ _ _ h4]; exact hl
        simp only [multiF, h1, this, if_true, List.map_nil, List.flatten_nil, List.append_nil]
        exact ⟨o', b', n', rfl, h2, h3⟩
      | cons m ms =>
        obtain ⟨hmok, hml⟩ := hm m (List.mem_cons_self ..)
        obtain ⟨o', b', n', h1, h2, h3⟩ := readLine_line m hmok _ buf net
          (by simpa only [List.map_cons, List.flatten_cons, List.append_assoc] using hs)
        have := readLine_lt h1
        simp only [multiF, h1, isLastLine_cut h2 hml, Bool.false_eq_true, if_false]
        have := ih ms o' (acc ++ cut o' m) b' n' (fun x hx => hm x (List.mem_cons_of_mem _ hx)) h3 (by omega)
        simpa only [List.map_cons, List.flatten_cons, List.append_assoc, ← cut_lfIf h2] using this

theorem getLast?_append_ne_cr (x t : Bytes) (hne : t ≠ []) (hc : CR ∉ t) : (x ++ t).getLast? ≠ some CR := by
  rw [List.getLast?_append]
  cases ht : t.getLast? with
  | none => exact absurd (List.getLast?_eq_none_iff.mp ht) hne
  | some a => exact fun h => hc (List.mem_of_getLast? (ht.trans h))

theorem stripEol_lf (s : Bytes) (h : s.getLast? ≠ some CR) : stripEol (s ++ [LF]) = s := by
  simp [stripEol, h]

theorem stripEol_crlf (s : Bytes) : stripEol (s ++ [CR, LF]) = s := by
  rw [show s ++ [CR, LF] = (s ++ [CR]) ++ [LF] by simp]
  simp [stripEol]

theorem stripEol_cr (s : Bytes) : stripEol (s ++ [CR]) = s := by
  simp [stripEol, cr_ne_lf]

/-- the status string ends in the last line as it was read: the reply text is the string without the terminator, and an
    LF is still owed exactly when the string ends in CR -/
theorem status_cut (pre : Bytes) (l : Line) (o : Bool) (hx : (pre ++ l.text).getLast? ≠ some CR) :
    stripEol (pre ++ cut o l) = pre ++ l.text ∧ decide ((pre ++ cut o l).getLast? = some CR) = o := by
  rw [cut, ← List.append_assoc]
  generalize pre ++ l.text = x at hx ⊢
  cases o with
  | true => exact ⟨stripEol_cr x, by simp⟩
  | false =>
    cases l.crlf with
    | false => exact ⟨stripEol_lf x hx, by simp [cr_ne_lf.symm]⟩
    | true => exact ⟨stripEol_crlf x, by simp [cr_ne_lf.symm]⟩

theorem recvFin_cut (c : Ctl) (code : Nat) (pre : Bytes) (l : Line) (o : Bool)
    (hne : l.text ≠ []) (hcr : CR ∉ l.text) (buf : Bytes) (net : Net) :
    recvFin c code (some (pre ++ cut o l), false, buf, net) =
      (.reply code (pre ++ l.text), { buf := buf, skipLf := o, closed := c.closed || code == 421 }, net) := by
  obtain ⟨h1, h2⟩ := status_cut pre l o (getLast?_append_ne_cr pre l.text hne hcr)
  simp only [recvFin, h1, h2]

/-- the first line of a reply is found, whether or not an orphan LF (which the reader knows of: `skipLf`) precedes it -/
theorem recv_head (c : Ctl) (net : Net) (o : Bool) (ho : o = true → c.skipLf = true) (l : Line) (hok : l.ok)
    (hne : l.text ≠ []) (rest : Bytes) (hs : c.buf ++ net.stream = lfIf o ++ (l.enc ++ rest)) :
    ∃ o1 buf1 net1, recv c net = recvTail c (cut o1 l) buf1 net1 ∧ (o1 = true → l.crlf = true) ∧
      buf1 ++ net1.stream = lfIf o1 ++ rest := by
  have hnlf : ∀ o1, (cut o1 l == [LF]) = false := by
    intro o1
    obtain ⟨a, t, ht⟩ := List.exists_cons_of_ne_nil hne
    have : a ≠ LF := fun h => hok.2.1 (by rw [ht, h]; exact List.mem_cons_self ..)
    simp [cut, ht, this]
  cases o with
  | false =>
    obtain ⟨o1, b1, n1, h1, h2, h3⟩ := readLine_line l hok rest c.buf net (by simpa [lfIf] using hs)
    exact ⟨o1, b1, n1, by simp only [recv_eq, h1, hnlf, Bool.and_false, Bool.false_eq_true, if_false, recvFirst],
      h2, h3⟩
  | true =>
    obtain ⟨b0, n0, h0, hs0⟩ := readLine_orphan _ c.buf net hs
    obtain ⟨o1, b1, n1, h1, h2, h3⟩ := readLine_line l hok rest b0 n0 hs0
    exact ⟨o1, b1, n1, by simp only [recv_eq, h0, ho rfl, Bool.true_and, beq_self_eq_true, if_true, h1, recvFirst],
      h2, h3⟩

theorem recvTail_single (c : Ctl) (code : Nat) (l : Line) (o : Bool) (hok : l.ok)
    (h4 : 4 ≤ l.text.length) (hps : parseStatus l.text = some code) (h3 : l.text.getD 3 0 = 32) (buf : Bytes) (net : Net) :
    recvTail c (cut o l) buf net =
      (.reply code l.text, { buf := buf, skipLf := o, closed := c.closed || code == 421 }, net) := by
  have hne : l.text ≠ [] := fun h => by rw [h] at h4; simp at h4
  have hps' : parseStatus (cut o l) = some code := by rw [cut, parseStatus_append _ _ (by omega), hps]
  have hd : ((cut o l).getD 3 0 == 45) = false := by rw [cut, getD_append_lt _ _ _ _ (by omega), h3]; rfl
  simp only [recvTail, hps', hd, Bool.and_false, Bool.false_eq_true, if_false]
  exact recvFin_cut c code [] l o hne hok.1 buf net

theorem recvTail_multi (c : Ctl) (code : Nat) (first : Line) (o : Bool) (ho : o = true → first.crlf = true)
    (h4 : 4 ≤ first.text.length) (hps : parseStatus first.text = some code) (h3 : first.text.getD 3 0 = 45)
    (mids : List Line) (hm : ∀ m ∈ mids, m.ok ∧ isLastLine m.enc code = false)
    (last : Line) (hlast : last.ok) (h4l : 4 ≤ last.text.length) (hl : isLastLine last.text code = true)
    (rest buf : Bytes) (net : Net)
    (hs : buf ++ net.stream = lfIf o ++ ((mids.map Line.enc).flatten ++ (last.enc ++ rest))) :
    ∃ o' buf' net', recvTail c (cut o first) buf net =
        (.reply code (first.enc ++ (mids.map Line.enc).flatten ++ last.text),
          { buf := buf', skipLf := o', closed := c.closed || code == 421 }, net') ∧
      buf' ++ net'.stream = lfIf o' ++ rest := by
  have hne : last.text ≠ [] := fun h => by rw [h] at h4l; simp at h4l
  have hps' : parseStatus (cut o first) = some code := by rw [cut, parseStatus_append _ _ (by omega), hps]
  have hd : (decide ((cut o first).length > 3) && (cut o first).getD 3 0 == 45) = true := by
    rw [cut, getD_append_lt _ _ _ _ (by omega), h3]
    simp only [List.length_append, beq_self_eq_true, Bool.and_true, decide_eq_true_eq]
    omega
  obtain ⟨o', b', n', h1, h2, h5⟩ :=
    multiF_lines code last hlast h4l hl rest _ mids o (cut o first) buf net hm hs (Nat.lt_succ_self _)
  rw [cut_lfIf ho] at h1
  refine ⟨o', b', n', ?_, h5⟩
  simp only [recvTail, hps', hd, if_true, h1]
  exact recvFin_cut c code _ last o' hne hlast.1 b' n'

/-! ### nothing pending: no reply is framed -/

theorem readLine_nil (net : Net) (hs : net.stream = []) :
    ∃ r net', readLine [] net = (r, [], net') ∧ (r = .eof ∨ r = .err) ∧ net'.stream = [] := by
  unfold readLine
  rw [hs]
  simp only [List.length_nil, readLineF, matchEol, hs]
  have : ¬ (0 ≥ maxLine) := by simp [maxLine]
  rw [if_neg this]
  cases net.fin <;> exact ⟨_, _, rfl, by simp, rfl⟩

theorem readLine_lf (net : Net) : readLine [LF] net = (.line [LF], [], net) := by
  unfold readLine
  simp [readLineF, matchEol]

theorem readLine_nil_lf (net : Net) (hs : net.stream = [LF]) :
    ∃ net', readLine [] net = (.line [LF], [], net') ∧ net'.stream = [] := by
  unfold readLine
  rw [hs]
  show ∃ net', readLineF (1 + 1) [] net = _ ∧ _
  rw [readLineF_succ]
  have hpos := gotOf_pos [] net (by simp [maxLine])
  obtain ⟨n, hn⟩ : ∃ n, gotOf [] net = n + 1 := ⟨gotOf [] net - 1, by omega⟩
  have : ¬ (([] : Bytes).length ≥ maxLine) := by simp [maxLine]
  simp only [matchEol, this, if_false, hs, hn, List.take_succ_cons, List.take_nil, List.nil_append,
    List.drop_succ_cons, List.drop_nil]
  rw [readLineF_succ]
  simp [matchEol, LF]

theorem recv_nothing (c : Ctl) (net : Net) (h : Pending c net []) : ∀ code text, (recv c net).1 ≠ .reply code text := by
  intro code text
  rcases h with h | ⟨hsk, h⟩
  · simp only [streamOf, List.map_nil, List.flatten_nil, List.append_eq_nil_iff] at h
    obtain ⟨hb, hs⟩ := h
    obtain ⟨r, net', h1, h2, _⟩ := readLine_nil net hs
    rw [recv_eq, hb, h1]
    rcases h2 with rfl | rfl <;> simp
  · simp only [streamOf, List.map_nil, List.flatten_nil] at h
    -- the orphan LF, buffered or still to be delivered, is read as a line and skipped; nothing is left after it
    obtain ⟨net1, h1, hs1⟩ : ∃ net1, readLine c.buf net = (.line [LF], [], net1) ∧ net1.stream = [] := by
      rcases hb : c.buf with _ | ⟨b, t⟩
      · exact readLine_nil_lf net (by simpa [hb] using h)
      · obtain ⟨rfl, rfl, hs⟩ : b = LF ∧ t = [] ∧ net.stream = [] := by simpa [hb] using h
        exact ⟨net, readLine_lf net, hs⟩
    obtain ⟨r, net2, h2, h3, _⟩ := readLine_nil net1 hs1
    rw [recv_eq, h1]
    simp only [hsk, Bool.true_and, beq_self_eq_true, if_true, h2]
    rcases h3 with rfl | rfl <;> simp [recvFirst]

end Ftp.Reader

namespace Ftp.Spec
open Ftp.Reader Ftp.Props.C01

theorem content_enc (x : Bytes) (l : Line) (hx : (x ++ l.text).getLast? ≠ some CR) :
    content (x ++ l.enc) = x ++ l.text := by
  have := (status_cut x l false hx).1
  rwa [show cut false l = l.enc by simp [cut, Line.enc]] at this

theorem content_line (l : Line) (hc : CR ∉ l.text) : content l.enc = l.text :=
  content_enc [] l (fun h => hc (List.mem_of_getLast? h))

theorem rawLines_text (t rest cur : Bytes) (hl : LF ∉ t) : rawLines (t ++ rest) cur = rawLines rest (cur ++ t) := by
  induction t generalizing cur with
  | nil => simp
  | cons a t ih =>
    simp only [List.mem_cons, not_or] at hl
    have ha : a ≠ LF := fun h => hl.1 h.symm
    rw [List.cons_append, rawLines]
    simp only [ha, if_false]
    rw [ih _ hl.2]
    simp

theorem rawLines_enc (ls : List Line) (h : ∀ l ∈ ls, LF ∉ l.text) :
    rawLines (ls.map Line.enc).flatten [] = some (ls.map Line.enc) := by
  induction ls with
  | nil => rfl
  | cons l ls ih =>
    have ih := ih (fun q hq => h q (List.mem_cons_of_mem _ hq))
    have hl : LF ∉ l.text ++ (if l.crlf then [CR] else []) := by
      have := h l (List.mem_cons_self ..)
      cases l.crlf <;> simp [this, (cr_ne_lf).symm]
    have : l.enc = (l.text ++ (if l.crlf then [CR] else [])) ++ [LF] := by cases hc : l.crlf <;> simp [Line.enc, hc]
    rw [List.map_cons, List.flatten_cons, this, List.append_assoc, rawLines_text _ _ _ hl]
    simp only [List.nil_append, List.cons_append, rawLines, if_true, ih]

theorem linesOk_enc (ls : List Line) (h : ∀ l ∈ ls, l.ok) : linesOk (ls.map Line.enc) = true := by
  unfold linesOk
  rw [List.all_eq_true]
  intro e he
  obtain ⟨l, hl, rfl⟩ := List.mem_map.mp he
  obtain ⟨hc, _, hlen⟩ := h l hl
  have h1 : l.text.contains CR = false := by
    rw [Bool.eq_false_iff]; intro hh; exact hc (List.contains_iff_mem.mp hh)
  have h2 : l.enc.length ≤ 8191 := by
    unfold maxLine at hlen
    cases hcr : l.crlf <;> simp [Line.enc, hcr] <;> omega
  rw [content_line l hc]
  simp only [h1, Bool.not_false, Bool.true_and, decide_eq_true_eq]
  exact h2

theorem codeOf_eq_parseStatus (l : Bytes) : codeOf l = parseStatus l := by
  unfold codeOf parseStatus
  match l with
  | [] | [_] | [_, _] => simp
  | a :: b :: c :: t =>
    -- three digits cannot exceed the bound of `parseU16`
    have hv : decValue [a, b, c] = (a - 48) * 100 + (b - 48) * 10 + (c - 48) := by
      simp only [decValue, List.foldl_cons, List.foldl_nil]; omega
    simp only [List.length_cons, List.take_succ_cons, List.take_zero]
    rw [if_neg (show ¬ t.length + 1 + 1 + 1 < 3 by omega), Utils.parseU16,
      parseBounded_short 65535 (by decide) _ (by simp) (by simp), hv]
    simp [Bool.and_assoc]

theorem closes_eq (code : Nat) (l : Line) (hc : CR ∉ l.text) (h4 : 4 ≤ l.text.length) :
    closes code l.enc = isLastLine l.enc code := by
  unfold closes
  rw [content_line l hc, codeOf_eq_parseStatus, Line.enc, isLastLine_append _ _ _ h4, parseStatus_append _ _ (by omega)]
  unfold isLastLine
  rw [if_neg (show ¬ l.text.length < 4 by omega)]
  generalize l.text.getD 3 0 = b
  cases parseStatus l.text with
  | none => simp
  | some v => by_cases h3 : b = 32 <;> by_cases hv : v = code <;> simp [h3, h4, hv]

theorem closes_short (code : Nat) (l : Line) (hc : CR ∉ l.text) (h4 : ¬ 4 ≤ l.text.length) :
    closes code l.enc = false := by
  unfold closes
  rw [content_line l hc]
  simp [h4]

theorem takeReply_spec (code : Nat) (mids : List Bytes) (last : Bytes) (rest : List Bytes)
    (hm : ∀ m ∈ mids, closes code m = false) (hl : closes code last = true) :
    takeReply code (mids ++ last :: rest) = some (mids ++ [last], rest) := by
  induction mids with
  | nil => simp [takeReply, hl]
  | cons m ms ih =>
    have h1 := hm m (List.mem_cons_self ..)
    rw [List.cons_append, takeReply]
    simp only [h1, Bool.false_eq_true, if_false]
    rw [ih (fun q hq => hm q (List.mem_cons_of_mem _ hq))]
    rfl

theorem groupReplies_nil (f : Nat) : groupReplies f [] = some [] := by
  cases f <;> rfl

theorem groupReplies_single (f : Nat) (l : Bytes) (L : List Bytes) (code : Nat) (txt : Bytes)
    (res : List (Nat × Bytes)) (hcode : codeOf l = some code) (hcont : content l = txt)
    (h3 : txt.getD 3 0 = 32) (hrec : groupReplies f L = some res) :
    groupReplies (f + 1) (l :: L) = some ((code, txt) :: res) := by
  rw [groupReplies]
  simp only [hcode, hcont, h3, hrec]
  simp

theorem groupReplies_multi (f : Nat) (l : Bytes) (X body rest : List Bytes) (code : Nat)
    (res : List (Nat × Bytes)) (hcode : codeOf l = some code) (h3 : (content l).getD 3 0 = 45)
    (h4 : 4 ≤ (content l).length) (htake : takeReply code X = some (body, rest))
    (hrec : groupReplies f rest = some res) :
    groupReplies (f + 1) (l :: X) = some ((code, content (l ++ body.flatten)) :: res) := by
  rw [groupReplies]
  simp only [hcode, h3, htake, hrec]
  simp [h4]

end Ftp.Spec
