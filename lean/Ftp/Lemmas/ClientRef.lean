import Ftp.Lemmas.ClientCtl
/-
  What C10 reads off the control dialogue of a call: the commands of each shape of dialogue are those the reference
  automaton (`Spec.expectedLines`) gives for the codes received - no hypothesis on the server -; the transfer type
  changes only on a positive reply to TYPE; `connect` with a user name leaves the world of `connect` followed by `login`.
-/
namespace Ftp.Client.CtlL
open Ftp.Session Ftp.Endpoint Ftp.Client.Walk Ftp.Client.SessL

theorem renameActs_ref (s : Spec.Settings) {a b act : Bytes} {as : List Act} (sh : RenameActs a b as) :
    (sends as).map lineOf = Spec.expectedLines s (.rename a b) ((recvs as).map (·.code)) act := by
  rcases sh with ⟨r1, ⟨h, rfl⟩ | ⟨h, r2, rfl⟩⟩ <;> simp [sends, recvs, Spec.expectedLines, h]

theorem loginActs_ref (s : Spec.Settings) {u p : Bytes} {t : TType} {as : List Act} (hs : s.asciiType = (t == .ascii))
    (sh : LoginActs u p t as) (hlt : ∀ r ∈ recvs as, r.code < 1000) :
    (sends as).map lineOf = Spec.loginLines s u p ((recvs as).map (·.code)) := by
  have ht := typeCommand_line s t hs
  cases sh with
  | user r1 h331 hn =>
    have := neg_eq (hlt r1 (by simp [recvs])) ▸ hn
    simp [sends, recvs, Spec.loginLines, h331, this]
  | userType r1 r3 h331 hn =>
    have := neg_eq (hlt r1 (by simp [recvs])) ▸ hn
    simp [sends, recvs, Spec.loginLines, h331, this, ht]
  | pass r1 r2 h331 hn =>
    have := neg_eq (hlt r2 (by simp [recvs])) ▸ hn
    simp [sends, recvs, Spec.loginLines, h331, this]
  | passType r1 r2 r3 h331 hn =>
    have := neg_eq (hlt r2 (by simp [recvs])) ▸ hn
    simp [sends, recvs, Spec.loginLines, h331, this, ht]

def connectRef (s : Spec.Settings) (cred : Option (Bytes × Bytes)) (g : Nat) (rest : List Nat) : List Bytes :=
  match cred with
  | some (u, p) => if Spec.negative g then [] else Spec.loginLines s u p rest
  | none => []

theorem expected_connect_1 (s : Spec.Settings) (cred : Option (Bytes × Bytes)) (g : Nat) (rest : List Nat)
    (act : Bytes) (hg : g ≠ 120) :
    Spec.expectedLines s (.connect cred) (g :: rest) act = connectRef s cred g rest := by
  -- `g` is not 120: of the patterns for the greeting, `g :: rest` applies
  rcases cred with _ | ⟨u, p⟩ <;> simp [Spec.expectedLines, connectRef, hg]

theorem expected_connect_2 (s : Spec.Settings) (cred : Option (Bytes × Bytes)) (g : Nat) (rest : List Nat)
    (act : Bytes) :
    Spec.expectedLines s (.connect cred) (120 :: g :: rest) act = connectRef s cred g rest := by
  unfold Spec.expectedLines connectRef
  rcases cred with _ | ⟨u, p⟩
  · simp only
  · simp only

theorem connectActs_ref (s : Spec.Settings) {cred : Option (Bytes × Bytes)} {t : TType} {as : List Act} {act : Bytes}
    (hs : s.asciiType = (t == .ascii)) (sh : ConnectActs cred t as) (hlt : ∀ r ∈ recvs as, r.code < 1000) :
    (sends as).map lineOf = Spec.expectedLines s (.connect cred) ((recvs as).map (·.code)) act := by
  obtain ⟨g, ga, la, rfl, shg, sht⟩ := sh
  rw [recvs_append] at hlt
  have hgl : g.code < 1000 := hlt g (List.mem_append_left _ (by rcases shg with ⟨rfl, _⟩ | ⟨g0, rfl, _⟩ <;> simp [recvs]))
  have key : (sends la).map lineOf = connectRef s cred g.code ((recvs la).map (·.code)) := by
    rcases sht with ⟨hc, rfl⟩ | ⟨hn, u, p, rfl, shl⟩
    · rcases hc with hn | rfl
      · rcases cred with _ | ⟨u, p⟩ <;> simp [connectRef, sends, ← neg_eq hgl, hn]
      · rfl
    · simp only [connectRef, ← neg_eq hgl, hn, Bool.false_eq_true, if_false]
      exact loginActs_ref s hs shl fun r hr => hlt r (List.mem_append_right _ hr)
  rcases shg with ⟨rfl, h120⟩ | ⟨g0, rfl, h120⟩
  · simp only [sends, recvs, List.map_cons, List.singleton_append]
    rw [key, expected_connect_1 _ _ _ _ _ h120]
  · simp only [sends, recvs, List.nil_append, List.map_cons, List.cons_append, h120]
    rw [key, expected_connect_2]

theorem xferActs_ref (s : Spec.Settings) {verb : String} {arg : Option Bytes} {canc : Bool} {setup : Bytes}
    {as : List Act} (hsetup : s.passive = true → setup = if s.rfc2428 then str "EPSV" else str "PASV")
    (sh : XferActs setup (Spec.line verb arg) canc as) (hlt : ∀ r ∈ recvs as, r.code < 1000) :
    (sends as).map lineOf = Spec.expectedLines s (.transfer verb arg canc) ((recvs as).map (·.code))
      (((sends as).head?.map lineOf).getD []) := by
  have hset : (if s.passive = true then (if s.rfc2428 = true then str "EPSV" else str "PASV") else setup) = setup := by
    split
    · rename_i hp; exact (hsetup hp).symm
    · rfl
  obtain ⟨cdc, fin, ready, rfl, sc, hf0, hf1⟩ := sh
  rw [recvs_append] at hlt
  rcases sc with ⟨r1, rfl, hn, rfl⟩ | ⟨r1, r2, rfl, hn1, rfl⟩
  · have h1 := neg_eq (hlt r1 (by simp [recvs])) ▸ hn
    simp [hf0 rfl, sends, recvs, Spec.expectedLines, h1, hset]
  · have h1 := neg_eq (hlt r1 (by simp [recvs])) ▸ hn1
    have h2 := neg_eq (hlt r2 (by simp [recvs]))
    cases hr2 : r2.isNegative
    · have hs2 := (hf1 (by simp [hr2])).sends
      have hn2 : Spec.negative r2.code = false := h2 ▸ hr2
      cases canc <;> simp_all [sends, recvs, Spec.expectedLines]
    · have hn2 : Spec.negative r2.code = true := h2 ▸ hr2
      simp [hf0 (by simp [hr2]), sends, recvs, Spec.expectedLines, h1, hn2, hset]

theorem setTransferType_tt (t : TType) (w : World) (h : (setTransferType t w).2.ttype ≠ w.ttype) :
    (setTransferType t w).2.ttype = t ∧
      ((received ((setTransferType t w).2.trace.drop w.trace.length)).getLast?.map Reply.isPositive) = some true := by
  have k : Keeps CtlStep (processCommand (typeCommand t)) := ctlStep_of fun C => keeps_processCommand C trivial
  unfold setTransferType at h ⊢
  simp only [bind_apply] at h ⊢
  rcases h1 : processCommand (typeCommand t) w with ⟨r | _, w1⟩ <;> simp only [h1] at h ⊢
  · obtain ⟨⟨evs, tr, _, hr⟩, _⟩ := processCommand_ext h1
    by_cases hp : r.isPositive = true <;>
      simp only [hp, if_true, if_false, Bool.false_eq_true, bind_apply, modifyW_apply, pure_apply] at h ⊢
    · exact ⟨trivial, by simp only [tr, List.drop_left, hr, List.getLast?_singleton, Option.map_some, hp]⟩
    · exact absurd (k.of_eq h1).ttype h
  · exact absurd (k.of_eq h1).ttype h

/-! ### connecting with a user name -/

theorem world_bind_congr {α β γ} {m : M α} {f : α → M β} {g : α → M γ} (h : ∀ a w, (f a w).2 = (g a w).2)
    (w : World) : ((m >>= f) w).2 = ((m >>= g) w).2 := by
  simp only [bind_apply]
  rcases m w with ⟨a | _, w1⟩
  · exact h a w1
  · rfl

theorem processCommandInto_eq (cmd : Bytes) (rs : Replies) :
    processCommandInto cmd rs = processCommand cmd >>= fun r => pure (r, rs.append r) := by
  unfold processCommandInto processCommand recvInto
  rw [bind_assoc_M]

theorem processLogin_indep (u p : Bytes) (rs rs' : Replies) (w : World) :
    (processLogin u p rs w).2 = (processLogin u p rs' w).2 := by
  unfold processLogin
  simp only [processCommandInto_eq, bind_assoc_M, pure_bind_M]
  refine world_bind_congr (fun cu w => ?_) w
  refine world_bind_congr (fun cp w => ?_) w
  refine world_bind_congr (fun r w => ?_) w
  have tail : ∀ (r : Reply) (a b : Replies) (w : World),
      ((if r.isNegative = true then pure (r, a)
        else do
          let w ← getW
          let r ← processCommand (typeCommand w.ttype)
          pure (r, a.append r) : M (Reply × Replies)) w).2 =
      ((if r.isNegative = true then pure (r, b)
        else do
          let w ← getW
          let r ← processCommand (typeCommand w.ttype)
          pure (r, b.append r) : M (Reply × Replies)) w).2 := by
    intro r a b w
    split
    · rfl
    · refine world_bind_congr (fun _ w => ?_) w
      refine world_bind_congr (fun _ w => ?_) w
      rfl
  split
  · refine world_bind_congr (fun r2 w => ?_) w
    exact tail _ _ _ _
  · exact tail _ _ _ _

theorem login_world (u p : Bytes) (w : World) : (login u p w).2 = (processLogin u p Replies.empty w).2 := by
  unfold login
  exact map_apply (processLogin u p Replies.empty) Prod.snd w

theorem greet_last {w w' : World} {r : Reply} {rs : Replies} (h : greet w = (.ok (r, rs), w')) :
    rs.list.getLast? = some r := by
  obtain ⟨ga, _, hl, ⟨rfl, _⟩ | ⟨g0, rfl, _⟩, _⟩ := greet_steps h <;> rw [hl] <;> rfl

theorem connect_user_world {h : Bytes} {p : Nat} {u pw : Bytes} {w w1 : World} {rs : Replies}
    (hu : hasCrLf u = false) (hp : hasCrLf pw = false) (h1 : connect h p none w = (.ok rs, w1))
    (hpos : (rs.list.getLast?.map Reply.isNegative) = some false) :
    (connect h p (some (u, pw)) w).2 = (login u pw w1).2 := by
  rw [connect_open h p none w rfl] at h1
  simp only [bind_ok] at h1
  obtain ⟨⟨r, rs1⟩, w2, hg, ht⟩ := h1
  have e : rs = rs1 ∧ w1 = w2 := by
    unfold afterGreeting at ht
    dsimp only at ht
    split at ht <;> (simp only [pure_ok] at ht; exact ⟨ht.1.symm, ht.2.symm⟩)
  obtain ⟨rfl, rfl⟩ := e
  have hneg : r.isNegative = false := by
    rw [greet_last hg] at hpos
    simpa using hpos
  have hcheck : connectCheck (some (u, pw)) w = (.ok (), w) := by
    unfold connectCheck
    simp only [bind_apply, mkCmd_succ _ _ _ hu, mkCmd_succ _ _ _ hp, pure_apply]
  rw [connect_open h p _ w hcheck, login_world, processLogin_indep u pw Replies.empty rs]
  simp only [bind_apply, hg]
  unfold afterGreeting
  simp only [hneg, Bool.false_eq_true, if_false]
  exact map_apply (processLogin u pw rs) Prod.snd w1

theorem added_trans {α β} {m1 : M α} {m2 : M β} {mm : M α} {w w1 : World} {P : Ev → Prop}
    (e1 : (m1 w).2 = w1) (k1 : Rt P w w1) (k2 : Rt P w1 (m2 w1).2) (e : (mm w).2 = (m2 w1).2) :
    added mm w = added m1 w ++ added m2 w1 := by
  obtain ⟨_, y, ty, _⟩ := k1
  obtain ⟨_, x, tx, _⟩ := k2
  unfold Session.added Session.after
  rw [e, e1, tx, ty, List.append_assoc, List.drop_left, List.drop_left, ← List.append_assoc, List.drop_left]

end Ftp.Client.CtlL
