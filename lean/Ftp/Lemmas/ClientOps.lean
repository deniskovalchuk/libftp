import Ftp.Lemmas.ClientSession
import Ftp.Lemmas.ClientData
/-
  Runs of the transfer operations against a particular script, forwards (C03o, C04o, C07, C12o): the set-up of the data
  connection accepted or refused in all four methods, the scope of the operation, the end of an undisturbed transfer.
  A lemma of an accepted path returns the world it reaches as a variable, with the facts the next lemma needs and the
  frame of what it ran (`ReadyConn.step`, `Rusr`); a property of the final world is composed from these, never computed
  through the nested world functions (that is exponential in their depth).  A lemma of a refused path returns what C07
  says of that world: in step and still connected.
-/
namespace Ftp.Client.OpsL
open Ftp.Session Ftp.Props.C01 Ftp.Endpoint Ftp.Client.SessL Ftp.Client.CtlL Ftp.Client.Walk

/-- the user objects of the operation, the transfer type and the oracles of the data channel are untouched -/
def Rusr (w w' : World) : Prop :=
  w'.ttype = w.ttype ∧ w'.sink = w.sink ∧ w'.sinkFlushes = w.sinkFlushes ∧ w'.sinkFailAt = w.sinkFailAt ∧
  w'.sinkSilent = w.sinkSilent ∧ w'.dataReads = w.dataReads ∧ w'.blockOks = w.blockOks ∧ w'.src = w.src ∧
  w'.srcFailAt = w.srcFailAt ∧ w'.peerGot = w.peerGot

instance : IsPre Rusr where
  refl w := ⟨rfl, rfl, rfl, rfl, rfl, rfl, rfl, rfl, rfl, rfl⟩
  trans := by
    rintro a b c ⟨a1, a2, a3, a4, a5, a6, a7, a8, a9, a10⟩ ⟨b1, b2, b3, b4, b5, b6, b7, b8, b9, b10⟩
    exact ⟨b1.trans a1, b2.trans a2, b3.trans a3, b4.trans a4, b5.trans a5, b6.trans a6, b7.trans a7, b8.trans a8,
      b9.trans a9, b10.trans a10⟩

theorem Rusr.of_setup {w w' : World} (h : SetupStep w w') : Rusr w w' :=
  have x : xferPart w' = xferPart w := congrArg (·.2) h.1
  ⟨congrArg (·.1.ttype) h.1, congrArg XferPart.sink x, congrArg XferPart.sinkFlushes x, congrArg XferPart.sinkFailAt x,
    congrArg XferPart.sinkSilent x, congrArg XferPart.dataReads x, congrArg XferPart.blockOks x, congrArg XferPart.src x,
    congrArg XferPart.srcFailAt x, congrArg XferPart.peerGot x⟩

def Rcf (w w' : World) : Prop := w'.conn = w.conn ∧ w'.closeFails = w.closeFails

theorem Rcf.of_move {w w' : World} (h : MoveStep w w') : Rcf w w' :=
  ⟨congrArg DescPart.conn h.desc, congrArg DescPart.closeFails h.desc⟩

def isOpening : Ev → Bool
  | .dataSocket _ | .dataConnect _ _ _ _ | .dataBind _ _ _ _ | .dataListen _ | .dataAccept _ _ => true
  | _ => false

/-- a step of a set-up that ends with a ready data connection: nothing is shut down or closed -/
abbrev ReadyStep := Own (fun w => (cfgPart w, xferPart w)) (fun e => isCtl e = true ∨ isOpening e = true)

theorem ReadyStep.setup {w w' : World} (h : ReadyStep w w') : SetupStep w w' :=
  h.mono (fun _ _ h => h) fun e he => he.imp_right fun h => by cases e <;> first | rfl | cases h

theorem ReadyStep.of_ctl {w w' : World} (h : CtlStep w w') : ReadyStep w w' :=
  h.mono (fun _ _ h => congrArg (fun x => (x.1, x.2.2)) h) fun _ h => .inl h

theorem readyStep_dcW (addr : Bytes) (port : Nat) (w : World) : ReadyStep w (dcW addr port w) :=
  ⟨rfl, _, rfl, by
    intro e he
    simp only [List.mem_cons, List.not_mem_nil, or_false] at he
    rcases he with rfl | rfl <;> exact .inr rfl⟩

theorem readyStep_listenW (w : World) : ReadyStep w (listenW w) :=
  ⟨rfl, _, rfl, by
    intro e he
    simp only [List.mem_cons, List.not_mem_nil, or_false] at he
    rcases he with rfl | rfl | rfl <;> exact .inr rfl⟩

theorem readyStep_acceptW (a : Nat) (w : World) : ReadyStep w (acceptW a w) :=
  ⟨rfl, _, rfl, by intro e he; rw [List.mem_singleton.mp he]; exact .inr rfl⟩

theorem Rusr.of_ctl {w w' : World} (h : CtlStep w w') : Rusr w w' := .of_setup h.setup
theorem Rusr.of_desc {w w' : World} (h : DescStep w w') : Rusr w w' := .of_setup h.setup

/-! ### the set-up of the data connection, accepted; the replies `q` after the preliminary one stay unread -/

/-- what a transfer needs of the data connection it has set up: the socket `d` (and the acceptor `a`) open, the session
    in step up to the replies `q`, the rest of the script, and what the set-up left alone -/
structure ReadyConn (w w1 : World) (q : List WfReply) (rest : List SGroup) (act : Option DataAct) (d : Nat)
    (a : Option Nat) : Prop where
  connected : w1.connected = true
  sync : Sync w1 q
  script : w1.script = rest.map SGroup.enc
  conn : w1.conn = some { sock := some d, acc := a }
  closeFails : w1.closeFails = w.closeFails
  act : ∀ x, act = some x → w1.act = some x
  step : ReadyStep w w1

theorem passive_start {β : Type} (verb : String) (parse : Bytes → Option β) (conn : β → M Unit) (cmd : Bytes)
    (rs : Replies) (w : World) (s : WfReply) (a : Option DataAct) (rest : List SGroup) (x : β) (addr : Bytes) (port : Nat)
    (hstep : InStep w []) (hs : s.wf) (hacc : s.code < 400) (hsc : w.script = (⟨[s], a⟩ :: rest).map SGroup.enc)
    (hok : w.connectOks.head? = some true) (hp : parse s.text = some x)
    (hconn : conn x (askW (str verb) w s) = dataConnect addr port (askW (str verb) w s)) :
    ∃ w3, passive verb parse conn cmd rs w = passiveRest cmd (rs.append (replyOf s)) w3 ∧
      w3.connected = true ∧ Sync w3 [] ∧ w3.script = rest.map SGroup.enc ∧
      w3.conn = some { sock := some w.nextD, acc := none } ∧ w3.closeFails = w.closeFails ∧ ReadyStep w w3 := by
  obtain ⟨hc, hsync⟩ := hstep
  obtain ⟨h1, h2, h3⟩ := ask_next (str verb) rs hc hsync hsc hs (by simp)
  have hdc : dataConnect addr port (askW (str verb) w s) = (.ok (), dcW addr port (askW (str verb) w s)) :=
    dataConnect_ok _ _ _ (by show w.connectOks.head?.getD false = true; rw [hok]; rfl)
  refine ⟨dcW addr port (askW (str verb) w s), ?_, askW_connected _ _ s hc (by omega), h2, h3, rfl, rfl,
    IsPre.trans (.of_ctl ((processCommandInto_step _ _).of_eq h1)) (readyStep_dcW ..)⟩
  rw [passive_parsed verb parse conn cmd rs w s a rest ⟨hc, hsync⟩ hs hacc hsc, hp]
  exact DataL.bind_ok (hconn.trans hdc)

theorem passiveRest_accepted (cmd : Bytes) (rs : Replies) (w3 : World) (m : WfReply) (q : List WfReply)
    (act : Option DataAct) (gs : List SGroup) (hc : w3.connected = true) (hs : Sync w3 [])
    (hsc : w3.script = (⟨m :: q, act⟩ :: gs).map SGroup.enc) (hm : m.wf) (hq : ∀ r ∈ q, r.wf) (hacc : m.code < 400) :
    ∃ w5, passiveRest cmd rs w3 = (.ok (true, rs.append (replyOf m)), w5) ∧ w5.connected = true ∧ Sync w5 q ∧
      w5.script = gs.map SGroup.enc ∧ w5.conn = w3.conn ∧ w5.closeFails = w3.closeFails ∧
      (∀ a, act = some a → w5.act = some a) ∧ CtlStep w3 w5 := by
  obtain ⟨h1, h2, h3⟩ := ask_next cmd rs hc hs hsc hm hq
  refine ⟨askW cmd w3 m, ?_, askW_connected _ _ m hc (by omega), h2, h3, rfl, rfl,
    fun a ha => askW_act _ _ _ _ _ a hsc ha, (processCommandInto_step _ _).of_eq h1⟩
  unfold passiveRest
  msimp [DataL.bind_ok h1, neg_of_lt hm hacc]

theorem passive_accepted {β : Type} (verb : String) (parse : Bytes → Option β) (conn : β → M Unit) (cmd : Bytes)
    (rs : Replies) (w : World) (s m : WfReply) (q : List WfReply) (act : Option DataAct) (rest : List SGroup) (x : β)
    (addr : Bytes) (port : Nat)
    (hstep : InStep w []) (hs : s.wf) (hm : m.wf) (hq : ∀ r ∈ q, r.wf) (hacc : s.code < 400) (hmain : m.code < 400)
    (hsc : w.script = (⟨[s], none⟩ :: ⟨m :: q, act⟩ :: rest).map SGroup.enc)
    (hok : w.connectOks.head? = some true) (hp : parse s.text = some x)
    (hconn : conn x (askW (str verb) w s) = dataConnect addr port (askW (str verb) w s)) :
    ∃ w1, passive verb parse conn cmd rs w = (.ok (true, (rs.append (replyOf s)).append (replyOf m)), w1) ∧
      ReadyConn w w1 q rest act w.nextD none := by
  obtain ⟨w3, h1, hc3, hs3, hsc3, hconn3, hcf3, k3⟩ := passive_start verb parse conn cmd rs w s none _ x addr port hstep
    hs hacc hsc hok hp hconn
  obtain ⟨w5, g1, g2, g3, g4, g5, g6, g7, k5⟩ := passiveRest_accepted cmd _ w3 m q act rest hc3 hs3 hsc3 hm hq hmain
  exact ⟨w5, h1.trans g1, g2, g3, g4, g5.trans hconn3, g6.trans hcf3, g7, IsPre.trans k3 (.of_ctl k5)⟩

theorem active_start (eprt : Bool) (cmd : Bytes) (rs : Replies) (w : World) (s : WfReply) (a : Option DataAct)
    (rest : List SGroup) (hstep : InStep w []) (hs : s.wf) (hsc : w.script = (⟨[s], a⟩ :: rest).map SGroup.enc)
    (hv6 : eprt = false → w.v6 = false) :
    ∃ w1, processActive eprt cmd rs w = activeRest cmd rs w1 ∧ w1.connected = true ∧ Sync w1 [s] ∧
      w1.script = rest.map SGroup.enc ∧ w1.conn = some { sock := none, acc := some w.nextD } ∧
      w1.closeFails = w.closeFails ∧ ReadyStep w w1 := by
  obtain ⟨hconn, hsync⟩ := hstep
  obtain ⟨c, hl⟩ := activeLine_some eprt w hv6
  obtain ⟨h1, h2⟩ := sync_sendW (cmd := c) (w := listenW w) (gs := ⟨[s], a⟩ :: rest) hsync hsc (nextG_more_wf hs (by simp))
  exact ⟨sendW c (listenW w), processActive_run eprt cmd rs w c hconn hl, hconn, h1, h2, rfl, rfl,
    IsPre.trans (readyStep_listenW w) (.of_ctl ((ctlSend_own c).of_eq (ctlSend_conn c (listenW w) hconn)))⟩

theorem activeRest_accepted (cmd : Bytes) (rs : Replies) (w1 : World) (s m : WfReply) (q : List WfReply)
    (act : Option DataAct) (gs : List SGroup) (l : Nat) (hc : w1.connected = true) (hs : Sync w1 [s])
    (hacc : s.code < 400) (hsc : w1.script = (⟨m :: q, act⟩ :: gs).map SGroup.enc) (hm : m.wf) (hq : ∀ r ∈ q, r.wf)
    (hmain : m.code < 400) (hconn : w1.conn = some { sock := none, acc := some l }) :
    ∃ w2 d, activeRest cmd rs w1 = (.ok (true, (rs.append (replyOf s)).append (replyOf m)), w2) ∧
      w2.connected = true ∧ Sync w2 q ∧ w2.script = gs.map SGroup.enc ∧
      w2.conn = some { sock := some d, acc := some l } ∧ w2.closeFails = w1.closeFails ∧
      (∀ a, act = some a → w2.act = some a) ∧ ReadyStep w1 w2 := by
  obtain ⟨k1, k2⟩ := ctlRecv_got hc hs
  have hwf := hs.2.2 s (List.mem_cons_self ..)
  have hc2 : (gotW w1 s.code s.text).connected = true := gotW_connected _ _ _ hc (by omega)
  obtain ⟨g1, g2, g3⟩ := ask_next (w := gotW w1 s.code s.text) cmd (rs.append (replyOf s)) hc2 k2 hsc hm hq
  have hda := dataAccept_ok (askW cmd (gotW w1 s.code s.text) m) _ l hconn rfl
  have c1 := (ctlRecv_own.of_eq k1).ctl
  have c2 := (processCommandInto_step _ _).of_eq g1
  -- `Sync` and `closeFails` come from the frames of the steps: through the nested worlds they are dear to compare
  refine ⟨acceptW l (askW cmd (gotW w1 s.code s.text) m), (askW cmd (gotW w1 s.code s.text) m).nextD, ?_,
    askW_connected cmd (gotW w1 s.code s.text) m hc2 (by omega), sync_of_dat (.of_desc (dataAccept_own.of_eq hda)) g2,
    g3, rfl, congrArg DescPart.closeFails (c2.desc.trans c1.desc),
    fun a ha => askW_act cmd (gotW w1 s.code s.text) m _ _ a hsc ha,
    IsPre.trans (IsPre.trans (.of_ctl c1) (.of_ctl c2)) (readyStep_acceptW ..)⟩
  unfold activeRest
  msimp [DataL.bind_ok (recvInto_run rs k1), neg_of_lt hwf hacc, DataL.bind_ok g1, neg_of_lt hm hmain,
      DataL.bind_ok hda]

/-- the set-up when both the set-up command and the transfer command are accepted, in all four methods: a connected
    data socket is ready, the replies `q` after the preliminary one are still unread -/
theorem cdc_accepted (cmd : Bytes) (rs : Replies) (w : World) (s m : WfReply) (q : List WfReply) (act : Option DataAct)
    (rest : List SGroup) (hstep : InStep w []) (hs : s.wf) (hm : m.wf) (hq : ∀ r ∈ q, r.wf) (hacc : s.code < 400)
    (hmain : m.code < 400)
    (hpass : w.mode = .passive → w.connectOks.head? = some true ∧
      (if w.rfc then (parseEpsv s.text).isSome else (parsePasv s.text).isSome))
    (hv6 : w.mode = .active → w.rfc = false → w.v6 = false)
    (hsc : w.script = (⟨[s], none⟩ :: ⟨m :: q, act⟩ :: rest).map SGroup.enc) :
    ∃ w1 d a, createDataConnection cmd rs w = (.ok (true, (rs.append (replyOf s)).append (replyOf m)), w1) ∧
      ReadyConn w w1 q rest act d a := by
  rcases createDataConnection_method cmd rs w with ⟨hmo, β, verb, parse, conn, e, _, hparse, hconn⟩ | ⟨hmo, e⟩ <;> rw [e]
  · obtain ⟨hok, hp⟩ := hpass hmo
    obtain ⟨x, hx⟩ := hparse _ hp
    obtain ⟨addr, port, hc⟩ := hconn x (askW (str verb) w s)
    obtain ⟨w1, h1, h2⟩ := passive_accepted verb parse conn cmd rs w s m q act rest x addr port hstep hs hm hq hacc hmain
      hsc hok hx hc
    exact ⟨w1, _, _, h1, h2⟩
  · obtain ⟨w1, h1, hc1, hs1, hsc1, hconn1, hcf1, k1⟩ := active_start w.rfc cmd rs w s none _ hstep hs hsc (hv6 hmo)
    obtain ⟨w2, d, g1, g2, g3, g4, g5, g6, g7, k2⟩ := activeRest_accepted cmd rs w1 s m q act rest w.nextD hc1 hs1 hacc
      hsc1 hm hq hmain hconn1
    exact ⟨w2, d, some w.nextD, h1.trans g1, g2, g3, g4, g5, g6.trans hcf1, g7, IsPre.trans k1 k2⟩

/-! ### the set-up refused: by the reply to the set-up command, or by the reply to the transfer command -/

/-- the set-up command (EPSV / PASV / EPRT / PORT) is refused, in all four methods -/
theorem cdc_refused_setup (cmd : Bytes) (rs : Replies) (w : World) (s : WfReply) (a : Option DataAct)
    (rest : List SGroup) (hstep : InStep w []) (hs : s.wf) (hneg : 400 ≤ s.code)
    (hsc : w.script = (⟨[s], a⟩ :: rest).map SGroup.enc) (hv6 : w.mode = .active → w.rfc = false → w.v6 = false) :
    ∃ w1, createDataConnection cmd rs w = (.ok (false, rs.append (replyOf s)), w1) ∧ Sync w1 [] ∧
      (s.code ≠ 421 → w1.connected = true) := by
  rcases createDataConnection_method cmd rs w with ⟨_, β, verb, parse, conn, e, _⟩ | ⟨hmo, e⟩ <;> rw [e]
  · obtain ⟨h1, h2, _⟩ := ask_next (str verb) rs hstep.1 hstep.2 hsc hs (by simp)
    refine ⟨askW (str verb) w s, ?_, h2, askW_connected _ _ s hstep.1⟩
    have hmk : mkCmd verb none = pure (str verb) := rfl
    unfold passive
    rw [hmk]
    msimp [DataL.bind_ok h1, neg_of_ge hs hneg]
  · obtain ⟨w1, h1, hc1, hs1, _⟩ := active_start w.rfc cmd rs w s a rest hstep hs hsc (hv6 hmo)
    obtain ⟨k1, k2⟩ := ctlRecv_got hc1 hs1
    refine ⟨gotW w1 s.code s.text, ?_, k2, gotW_connected _ _ _ hc1⟩
    rw [h1]
    unfold activeRest
    msimp [DataL.bind_ok (recvInto_run rs k1), neg_of_ge hs hneg]

/-- the transfer command is refused after an accepted set-up, in all four methods: the data connection of the passive
    set-up is shut down and closed again -/
theorem cdc_refused_main (cmd : Bytes) (rs : Replies) (w : World) (s m : WfReply) (act : Option DataAct)
    (rest : List SGroup) (hstep : InStep w []) (hs : s.wf) (hm : m.wf) (hacc : s.code < 400) (hneg : 400 ≤ m.code)
    (hsc : w.script = (⟨[s], none⟩ :: ⟨[m], act⟩ :: rest).map SGroup.enc)
    (hv6 : w.mode = .active → w.rfc = false → w.v6 = false)
    (hpassive : w.mode = .passive → w.connectOks.head? = some true ∧ w.closeFails.head?.getD false = false ∧
        (if w.rfc then (parseEpsv s.text).isSome else (parsePasv s.text).isSome)) :
    ∃ w1, createDataConnection cmd rs w = (.ok (false, (rs.append (replyOf s)).append (replyOf m)), w1) ∧ Sync w1 [] ∧
      (m.code ≠ 421 → w1.connected = true) := by
  rcases createDataConnection_method cmd rs w with ⟨hmo, β, verb, parse, conn, e, _, hparse, hconn⟩ | ⟨hmo, e⟩ <;> rw [e]
  · obtain ⟨hok, hcf, hp⟩ := hpassive hmo
    obtain ⟨x, hx⟩ := hparse _ hp
    obtain ⟨addr, port, hc⟩ := hconn x (askW (str verb) w s)
    obtain ⟨w3, h1, hc3, hs3, hsc3, hconn3, hcf3, _⟩ := passive_start verb parse conn cmd rs w s none _ x addr port hstep
      hs hacc hsc hok hx hc
    obtain ⟨g1, g2, _⟩ := ask_next cmd (rs.append (replyOf s)) hc3 hs3 hsc3 hm (by simp)
    have hd : dataDisconnect true (askW cmd w3 m) = (.ok (), dropW true w.nextD none (askW cmd w3 m)) := by
      obtain ⟨_, hr, hw⟩ := dataDisconnect_sock true (askW cmd w3 m) w.nextD none hconn3
      have h := hr.mpr ⟨show w3.closeFails.head?.getD false = false by rw [hcf3]; exact hcf, nofun⟩
      exact Prod.ext h (hw h)
    refine ⟨dropW true w.nextD none (askW cmd w3 m), ?_, g2, askW_connected _ _ m hc3⟩
    rw [h1]
    unfold passiveRest
    msimp [DataL.bind_ok g1, neg_of_ge hm hneg, DataL.bind_ok hd]
  · obtain ⟨w1, h1, hc1, hs1, hsc1, _⟩ := active_start w.rfc cmd rs w s none _ hstep hs hsc (hv6 hmo)
    obtain ⟨k1, k2⟩ := ctlRecv_got hc1 hs1
    have hc2 : (gotW w1 s.code s.text).connected = true := gotW_connected _ _ _ hc1 (by omega)
    obtain ⟨g1, g2, _⟩ := ask_next (w := gotW w1 s.code s.text) cmd (rs.append (replyOf s)) hc2 k2 hsc1 hm (by simp)
    refine ⟨askW cmd (gotW w1 s.code s.text) m, ?_, g2, askW_connected _ _ m hc2⟩
    rw [h1]
    unfold activeRest
    msimp [DataL.bind_ok (recvInto_run rs k1), neg_of_lt hs hacc, DataL.bind_ok g1, neg_of_ge hm hneg]

/-! ### the scope of a transfer -/

theorem xfer_ready {α : Type} (verb : String) (arg : Option Bytes) (body : Replies → M α) (dflt : Replies → α)
    (w w1 w3 : World) (cmd : Bytes) (rs1 : Replies) (a : α) (hmk : mkCmd verb arg w = (.ok cmd, w))
    (hcdc : createDataConnection cmd Replies.empty w = (.ok (true, rs1), w1)) (hbody : body rs1 w1 = (.ok a, w3)) :
    xfer verb arg body dflt w = (.ok a, destroyW w3) := by
  refine withScope_ok_eq ?_
  simp only [CtlL.bind_apply, hmk]
  rw [hcdc]
  exact hbody

theorem xfer_notready {α : Type} (verb : String) (arg : Option Bytes) (body : Replies → M α) (dflt : Replies → α)
    (w w1 : World) (cmd : Bytes) (rs1 : Replies) (hmk : mkCmd verb arg w = (.ok cmd, w))
    (hcdc : createDataConnection cmd Replies.empty w = (.ok (false, rs1), w1)) :
    xfer verb arg body dflt w = (.ok (dflt rs1), destroyW w1) := by
  refine withScope_ok_eq ?_
  simp only [CtlL.bind_apply, hmk]
  rw [hcdc]
  rfl

theorem moveBody_ok (cb : Bool) (mv : TType → M Unit) (rs1 rs : Replies) (w1 w2 w3 : World)
    (hmv : mv w1.ttype w1 = (.ok (), w2)) (hfin : finishTransfer cb rs1 w2 = (.ok rs, w3)) :
    moveBody cb mv rs1 w1 = (.ok rs, w3) := by
  unfold moveBody
  msimp [DataL.bind_ok hmv]
  exact hfin

theorem finish_ok (rs : Replies) (w2 : World) (c : WfReply) (d : Nat) (a : Option Nat) (hc : w2.connected = true)
    (hs : Sync w2 [c]) (hconn : w2.conn = some { sock := some d, acc := a }) (hcl : ∀ b ∈ w2.closeFails, b = false) :
    ∃ w3, finishTransfer false rs w2 = (.ok (rs.append (replyOf c)), w3) ∧ Sync w3 [] ∧
      (c.code ≠ 421 → w3.connected = true) ∧ w3.conn = some { sock := none, acc := none } ∧ Rusr w2 w3 ∧
      w3.trace = w2.trace ++ ((Ev.dataShutdown d :: Ev.dataClose d :: a.toList.map Ev.dataClose) ++
        replyEvs w2.observers c.code c.text) := by
  have hd := dataDisconnect_ok true w2 d a hconn hcl
  obtain ⟨k1, k2⟩ := ctlRecv_got (w := dropW true d a w2) hc hs
  refine ⟨gotW (dropW true d a w2) c.code c.text, ?_, k2, gotW_connected _ _ _ hc, rfl,
    IsPre.trans (.of_desc ((dataDisconnect_own true).of_eq hd)) (.of_ctl (ctlRecv_own.of_eq k1).ctl), ?_⟩
  · unfold finishTransfer
    msimp [DataL.bind_ok hd, DataL.bind_ok (recvInto_run rs k1)]
  · rw [gotW_trace]
    simp [dropW]

theorem listBody_ok (rs : Replies) (w1 w2 : World) (c : WfReply) (d : Nat) (a : Option Nat)
    (hmv : dataRecv false w1.ttype { w1 with sinkSilent := true, sink := [], sinkFailAt := none } = (.ok (), w2))
    (hc : w2.connected = true) (hs : Sync w2 [c]) (hconn : w2.conn = some { sock := some d, acc := a })
    (hcl : ∀ b ∈ w2.closeFails, b = false) :
    ∃ w3, listBody rs w1 = (.ok (rs.append (replyOf c), w2.sink), w3) ∧ Sync w3 [] ∧
      (c.code ≠ 421 → w3.connected = true) ∧ w3.conn = some { sock := none, acc := none } := by
  have hn := listingNotify_own w2.sink w2
  generalize hw : (TraceL.listingNotify w2.sink w2).2 = wl at hn
  have hrun : TraceL.listingNotify w2.sink w2 = (.ok (), wl) := by rw [← hw]; rfl
  have hdl := Rdat.of_list hn
  have hdesc : descPart wl = descPart w2 := congrArg (·.2.2.1) hn.1
  have hcf : wl.closeFails = w2.closeFails := congrArg DescPart.closeFails hdesc
  have hd := dataDisconnect_ok true wl d a ((congrArg DescPart.conn hdesc).trans hconn) (by rw [hcf]; exact hcl)
  have hsl : Sync (dropW true d a wl) [c] := (sync_of_dat hdl hs : Sync wl [c])
  obtain ⟨k1, k2⟩ := ctlRecv_got (w := dropW true d a wl) (hdl.connected.trans hc) hsl
  refine ⟨gotW (dropW true d a wl) c.code c.text, ?_, k2, gotW_connected _ _ _ (hdl.connected.trans hc), rfl⟩
  unfold listBody
  msimp [DataL.bind_ok hmv]
  rw [DataL.bind_ok hrun, DataL.bind_ok hd]
  rw [DataL.bind_ok (recvInto_run rs k1)]
  rfl

theorem dataRecv_sink (w : World) (payload : Bytes) (reads : List Nat) (more : List (Option Nat))
    (hb : ∀ n ∈ reads, 0 < n ∧ n ≤ 8192) (hsum : reads.sum = payload.length)
    (hact : w.act = some (.send payload)) (hreads : w.dataReads = reads.map some ++ some 0 :: more)
    (hsink : w.sinkFailAt = none) :
    ∃ w2, dataRecv false w.ttype w = (.ok (), w2) ∧ w2.sinkFlushes = w.sinkFlushes + 1 ∧
      w2.sink = w.sink ++ (match w.ttype with | .binary => payload | .ascii => Spec.dlSpec payload) ∧
      Rdat w w2 ∧ Rcf w w2 := by
  obtain ⟨h1, h2, _, h4, _⟩ := DataL.dataRecv_delivers w.ttype w payload reads more hb hsum hact hreads hsink
  have hrun := run_of_result h1
  exact ⟨_, hrun, h2, h4, Rdat.of_move ((dataRecv_own _ _).of_eq hrun), Rcf.of_move ((dataRecv_own _ _).of_eq hrun)⟩

end Ftp.Client.OpsL
