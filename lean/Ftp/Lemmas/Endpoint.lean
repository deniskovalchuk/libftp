import Ftp.Spec.Pure
import Ftp.Lemmas.Utils
/- the endpoint parsers and formatters (C06): `parenGroup` finds exactly the text between the first `(` and the last `)`;
   `toDec` writes digits whose value is the number; `split_string` and the reference splitters cut at every delimiter
   (`_piece`, `_last`), and `joinWith` undoes `splitGo` when no piece was dropped (`splitGo_join`); the command lines
   `makeCommand`, `fmtEprt`, `fmtPort` build are free of CR and LF when their arguments are (`*_clean`) -/
namespace Ftp
open Ftp.Utils Ftp.Endpoint

theorem splitFirst_sound {ch : Byte} {s pre post : Bytes} (h : splitFirst ch s = some (pre, post)) :
    s = pre ++ ch :: post ∧ ch ∉ pre := by
  induction s generalizing pre with
  | nil => simp [splitFirst] at h
  | cons c t ih =>
    simp only [splitFirst] at h
    by_cases hc : c = ch
    · simp only [hc, if_true, Option.some.injEq, Prod.mk.injEq] at h
      obtain ⟨rfl, rfl⟩ := h
      simp [hc]
    · simp only [hc, if_false] at h
      cases hs : splitFirst ch t with
      | none => simp [hs] at h
      | some pq =>
        obtain ⟨p', q'⟩ := pq
        simp only [hs, Option.some.injEq, Prod.mk.injEq] at h
        obtain ⟨rfl, rfl⟩ := h
        obtain ⟨h1, h2⟩ := ih hs
        refine ⟨by simp [← h1], ?_⟩
        simp only [List.mem_cons, not_or]
        exact ⟨fun e => hc e.symm, h2⟩

theorem splitFirst_complete {ch : Byte} {pre : Bytes} (post : Bytes) (h : ch ∉ pre) :
    splitFirst ch (pre ++ ch :: post) = some (pre, post) := by
  induction pre with
  | nil => simp [splitFirst]
  | cons c t ih =>
    simp only [List.mem_cons, not_or] at h
    have hc : ¬ c = ch := fun e => h.1 e.symm
    simp [splitFirst, hc, ih h.2]

theorem splitLast_none {ch : Byte} {s : Bytes} : splitLast ch s = none ↔ ch ∉ s := by
  induction s with
  | nil => simp [splitLast]
  | cons c t ih =>
    rw [List.mem_cons, not_or, ← ih, splitLast]
    cases splitLast ch t <;> simp [eq_comm]

theorem splitLast_sound {ch : Byte} {s pre post : Bytes} (h : splitLast ch s = some (pre, post)) :
    s = pre ++ ch :: post ∧ ch ∉ post := by
  induction s generalizing pre with
  | nil => simp [splitLast] at h
  | cons c t ih =>
    simp only [splitLast] at h
    cases hs : splitLast ch t with
    | some pq =>
      obtain ⟨p', q'⟩ := pq
      simp only [hs, Option.some.injEq, Prod.mk.injEq] at h
      obtain ⟨rfl, rfl⟩ := h
      obtain ⟨h1, h2⟩ := ih hs
      exact ⟨by simp [← h1], h2⟩
    | none =>
      simp only [hs] at h
      by_cases hc : c = ch
      · simp only [hc, if_true, Option.some.injEq, Prod.mk.injEq] at h
        obtain ⟨rfl, rfl⟩ := h
        exact ⟨by simp [hc], splitLast_none.mp hs⟩
      · simp [hc] at h

theorem splitLast_complete {ch : Byte} (pre : Bytes) {post : Bytes} (h : ch ∉ post) :
    splitLast ch (pre ++ ch :: post) = some (pre, post) := by
  induction pre with
  | nil => simp [splitLast, splitLast_none.mpr h]
  | cons c t ih => simp [splitLast, ih]

theorem parenGroup_sound {t pre inner post : Bytes} (h : parenGroup t = some (pre, inner, post)) :
    t = pre ++ 40 :: (inner ++ 41 :: post) ∧ 40 ∉ pre ∧ 41 ∉ post := by
  unfold parenGroup at h
  cases h1 : splitFirst 40 t with
  | none => simp [h1] at h
  | some pq =>
    obtain ⟨p, ao⟩ := pq
    simp only [h1] at h
    cases h2 : splitLast 41 ao with
    | none => simp [h2] at h
    | some iq =>
      obtain ⟨i, q⟩ := iq
      simp only [h2, Option.some.injEq, Prod.mk.injEq] at h
      obtain ⟨rfl, rfl, rfl⟩ := h
      obtain ⟨e1, n1⟩ := splitFirst_sound h1
      obtain ⟨e2, n2⟩ := splitLast_sound h2
      exact ⟨by rw [e1, e2], n1, n2⟩

theorem parenGroup_complete {pre post : Bytes} (inner : Bytes) (h1 : 40 ∉ pre) (h2 : 41 ∉ post) :
    parenGroup (pre ++ 40 :: (inner ++ 41 :: post)) = some (pre, inner, post) := by
  unfold parenGroup
  rw [splitFirst_complete _ h1]
  simp only
  rw [splitLast_complete _ h2]

theorem isDigit_iff (b : Nat) : isDigit b = true ↔ (48 ≤ b ∧ b ≤ 57) := by
  simp only [isDigit, Bool.and_eq_true, decide_eq_true_eq]

theorem isDigits_ne_nil {f : Bytes} (h : isDigits f = true) : f ≠ [] := by
  intro e; subst e; simp [isDigits] at h

theorem isDigits_all {f : Bytes} (h : isDigits f = true) : ∀ x ∈ f, 48 ≤ x ∧ x ≤ 57 := by
  intro x hx
  simp only [isDigits, Bool.and_eq_true, List.all_eq_true] at h
  exact (isDigit_iff x).mp (h.2 x hx)

theorem not_mem_of_isDigits {f : Bytes} (h : isDigits f = true) {ch : Nat} (hc : ch < 48 ∨ 57 < ch) :
    ch ∉ f := by
  intro hm
  have := isDigits_all h ch hm
  omega

theorem toDecF_spec (fuel n : Nat) (acc : Bytes) (h : n < fuel) :
    ∃ ds, toDecF fuel n acc = ds ++ acc ∧ ds ≠ [] ∧ ds.all isDigit = true ∧ ds.foldl decStep 0 = n := by
  induction fuel generalizing n acc with
  | zero => omega
  | succ fuel ih =>
    simp only [toDecF]
    by_cases h10 : n < 10
    · refine ⟨[48 + n], by simp [h10], by simp, ?_, ?_⟩
      · simp only [List.all_cons, List.all_nil, Bool.and_true, isDigit_iff]; omega
      · simp only [List.foldl_cons, List.foldl_nil, decStep]; omega
    · simp only [h10, if_false]
      obtain ⟨ds, e, _, hall, hv⟩ := ih (n / 10) ((48 + n % 10) :: acc) (by omega)
      refine ⟨ds ++ [48 + n % 10], by simp [e], by simp, ?_, ?_⟩
      · simp only [List.all_append, hall, List.all_cons, List.all_nil, Bool.and_true, Bool.true_and,
          isDigit_iff]; omega
      · simp only [List.foldl_append, hv, List.foldl_cons, List.foldl_nil, decStep]; omega

theorem toDec_spec (n : Nat) : isDigits (toDec n) = true ∧ decValue (toDec n) = n := by
  obtain ⟨ds, e, hne, hall, hv⟩ := toDecF_spec (n + 1) n [] (by omega)
  simp only [List.append_nil] at e
  unfold toDec
  rw [e]
  refine ⟨?_, by rw [decValue_eq_foldl]; exact hv⟩
  cases ds with
  | nil => exact absurd rfl hne
  | cons c t => simpa [isDigits] using hall

theorem toDec_isDigits (n : Nat) : isDigits (toDec n) = true := (toDec_spec n).1
theorem toDec_decValue (n : Nat) : decValue (toDec n) = n := (toDec_spec n).2

theorem not_mem_toDec (n : Nat) {ch : Nat} (hc : ch < 48 ∨ 57 < ch) : ch ∉ toDec n :=
  not_mem_of_isDigits (toDec_isDigits n) hc

def joinWith (del : Byte) : List Bytes → Bytes
  | [] => []
  | [p] => p
  | p :: q :: ps => p ++ del :: joinWith del (q :: ps)

theorem splitGo_length_le (del : Byte) (s cur : Bytes) :
    (splitGo del s cur).length ≤ s.count del + 1 := by
  induction s generalizing cur with
  | nil => simp [splitGo]
  | cons ch rest ih =>
    simp only [splitGo, List.count_cons, beq_iff_eq]
    split
    · have := ih []
      simp only [List.length_cons]; omega
    · split
      · simp
      · have := ih (cur ++ [ch])
        omega

theorem splitGo_join (del : Byte) (s cur : Bytes)
    (h : (splitGo del s cur).length = s.count del + 1) :
    joinWith del (splitGo del s cur) = cur ++ s := by
  induction s generalizing cur with
  | nil => simp [splitGo] at h
  | cons ch rest ih =>
    simp only [splitGo] at h ⊢
    by_cases hc : ch = del
    · subst hc
      simp only [if_true, List.length_cons, List.count_cons_self] at h ⊢
      have hl : (splitGo ch rest []).length = rest.count ch + 1 := by omega
      have := ih [] hl
      cases hs : splitGo ch rest [] with
      | nil => simp [hs] at hl
      | cons q qs =>
        rw [hs] at this
        simp only [joinWith, this, List.nil_append]
    · simp only [hc, if_false] at h ⊢
      by_cases hr : rest.isEmpty = true
      · have : rest = [] := by simpa using hr
        subst this
        simp [joinWith]
      · simp only [hr, if_false, Bool.false_eq_true] at h ⊢
        have hc' : ¬ (ch == del) = true := by simpa using hc
        simp only [List.count_cons, hc', if_false, Bool.false_eq_true, Nat.add_zero] at h
        rw [ih (cur ++ [ch]) h]
        simp

theorem splitGo_piece (del : Byte) (p rest cur : Bytes) (hp : del ∉ p) :
    splitGo del (p ++ del :: rest) cur = (cur ++ p) :: splitGo del rest [] := by
  induction p generalizing cur with
  | nil => simp [splitGo]
  | cons x xs ih =>
    simp only [List.mem_cons, not_or] at hp
    have hx : ¬ x = del := fun e => hp.1 e.symm
    simp [splitGo, hx, ih _ hp.2]

theorem splitGo_last (del : Byte) (p cur : Bytes) (hp : del ∉ p) (hne : p ≠ []) :
    splitGo del p cur = [cur ++ p] := by
  induction p generalizing cur with
  | nil => exact absurd rfl hne
  | cons x xs ih =>
    simp only [List.mem_cons, not_or] at hp
    have hx : ¬ x = del := fun e => hp.1 e.symm
    simp only [splitGo, hx, if_false]
    by_cases hr : xs = []
    · subst hr; simp
    · have : ¬ xs.isEmpty = true := by simpa using hr
      simp [this, ih _ hp.2 hr]

theorem splitComma_piece (p rest cur : Bytes) (hp : 44 ∉ p) :
    Spec.splitComma (p ++ 44 :: rest) cur = (cur ++ p) :: Spec.splitComma rest [] := by
  induction p generalizing cur with
  | nil => simp [Spec.splitComma]
  | cons x xs ih =>
    simp only [List.mem_cons, not_or] at hp
    have hx : ¬ x = 44 := fun e => hp.1 e.symm
    simp [Spec.splitComma, hx, ih _ hp.2]

theorem splitComma_last (p cur : Bytes) (hp : 44 ∉ p) :
    Spec.splitComma p cur = [cur ++ p] := by
  induction p generalizing cur with
  | nil => simp [Spec.splitComma]
  | cons x xs ih =>
    simp only [List.mem_cons, not_or] at hp
    have hx : ¬ x = 44 := fun e => hp.1 e.symm
    simp [Spec.splitComma, hx, ih _ hp.2]

theorem splitBar_piece (p rest cur : Bytes) (hp : 124 ∉ p) :
    Spec.splitBar (p ++ 124 :: rest) cur = (cur ++ p) :: Spec.splitBar rest [] := by
  induction p generalizing cur with
  | nil => simp [Spec.splitBar]
  | cons x xs ih =>
    simp only [List.mem_cons, not_or] at hp
    have hx : ¬ x = 124 := fun e => hp.1 e.symm
    simp [Spec.splitBar, hx, ih _ hp.2]

theorem splitBar_last (p cur : Bytes) (hp : 124 ∉ p) :
    Spec.splitBar p cur = [cur ++ p] := by
  induction p generalizing cur with
  | nil => simp [Spec.splitBar]
  | cons x xs ih =>
    simp only [List.mem_cons, not_or] at hp
    have hx : ¬ x = 124 := fun e => hp.1 e.symm
    simp [Spec.splitBar, hx, ih _ hp.2]

theorem octet_of_digits {f : Bytes} (h : isDigits f = true) (hv : decValue f ≤ 255) :
    Spec.octet? f = some (decValue f) := by
  simp [Spec.octet?, h, hv]

theorem octet_toDec (n : Nat) (h : n < 256) : Spec.octet? (toDec n) = some n := by
  have := octet_of_digits (toDec_isDigits n) (by rw [toDec_decValue]; omega)
  rwa [toDec_decValue] at this

theorem parseU8_some {s : Bytes} {v : Nat} (h : parseU8 s = some v) :
    isDigits s = true ∧ decValue s ≤ 255 ∧ decValue s = v := by
  obtain ⟨h1, rfl, h3⟩ := parseBounded_some (max := 255) (by unfold u64max; omega) h
  exact ⟨h1, h3, rfl⟩

theorem parseU8_digits {s : Bytes} (h : isDigits s = true) (hv : decValue s ≤ 255) :
    parseU8 s = some (decValue s) := by
  rw [parseU8_spec]; simp [h, hv]

theorem str_PORT : str "PORT " = [80, 79, 82, 84, 32] := by decide
theorem str_EPRT : str "EPRT " = [69, 80, 82, 84, 32] := by decide
theorem str_EPRTbar : str "EPRT |" = [69, 80, 82, 84, 32, 124] := by decide

theorem map_dot_toDec (n : Nat) :
    (toDec n).map (fun ch => if ch = 46 then 44 else ch) = toDec n := by
  have h : ∀ x ∈ toDec n, (fun ch => if ch = 46 then 44 else ch) x = id x := by
    intro x hx
    have := isDigits_all (toDec_isDigits n) x hx
    have : ¬ x = 46 := by omega
    simp [this]
  rw [List.map_congr_left h, List.map_id]

/-! ### command lines free of CR and LF -/

theorem hasCrLf_append (a b : Bytes) : hasCrLf (a ++ b) = (hasCrLf a || hasCrLf b) := by
  simp [hasCrLf, List.any_append]

theorem hasCrLf_false_iff (s : Bytes) : hasCrLf s = false ↔ CR ∉ s ∧ LF ∉ s := by
  induction s with
  | nil => simp [hasCrLf]
  | cons c t ih =>
    have : hasCrLf (c :: t) = ((c = CR || c = LF) || hasCrLf t) := by simp [hasCrLf]
    rw [this]
    simp only [Bool.or_eq_false_iff, ih, List.mem_cons, not_or, decide_eq_false_iff_not]
    constructor
    · rintro ⟨⟨h1, h2⟩, h3, h4⟩; exact ⟨⟨fun h => h1 h.symm, h3⟩, fun h => h2 h.symm, h4⟩
    · rintro ⟨⟨h1, h3⟩, h2, h4⟩; exact ⟨⟨fun h => h1 h.symm, fun h => h2 h.symm⟩, h3, h4⟩

theorem hasCrLf_toDec (n : Nat) : hasCrLf (toDec n) = false :=
  (hasCrLf_false_iff _).2 ⟨not_mem_toDec n (.inl (by decide)), not_mem_toDec n (.inl (by decide))⟩

theorem makeCommand_clean {verb : Bytes} {arg : Option Bytes} {c : Bytes} (hv : hasCrLf verb = false)
    (h : makeCommand verb arg = some c) : hasCrLf c = false := by
  cases arg with
  | none => simp [makeCommand] at h; subst h; exact hv
  | some a =>
    simp only [makeCommand] at h
    split at h
    · cases h
    · rename_i ha
      simp only [Option.some.injEq] at h
      subst h
      simp only [hasCrLf_append, hv, Bool.false_or]
      simp only [Bool.not_eq_true] at ha
      rw [ha]
      decide

theorem fmtEprt_clean (fam : Family) {addr : Bytes} (port : Nat) (ha : hasCrLf addr = false) :
    hasCrLf (fmtEprt fam addr port) = false := by
  unfold fmtEprt
  have h1 : hasCrLf (str "EPRT |") = false := by decide
  have h3 : hasCrLf [124] = false := by decide
  simp only [hasCrLf_append, hasCrLf_toDec, h1, h3, ha, Bool.or_false, Bool.false_or]
  cases fam <;> decide

theorem fmtPort_clean {fam : Family} {addr : Bytes} {port : Nat} {c : Bytes}
    (ha : hasCrLf (addr.map fun ch => if ch = 46 then 44 else ch) = false) (h : fmtPort fam addr port = some c) :
    hasCrLf c = false := by
  unfold fmtPort at h
  cases fam with
  | v6 => cases h
  | v4 =>
    simp only [Option.some.injEq] at h
    subst h
    have h1 : hasCrLf (str "PORT ") = false := by decide
    have h3 : hasCrLf [44] = false := by decide
    simp only [hasCrLf_append, hasCrLf_toDec, h1, h3, ha, Bool.or_false]

end Ftp
