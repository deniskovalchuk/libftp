import Ftp.Spec.Session
/-
  The program logic of the client-level monad `Ftp.Client.M`: its equations pointwise, what a program keeps on every
  path - an invariant (`TraceL.Keeps`) or a relation between the worlds before and after (`CtlL.Keeps`, for a
  preorder) -, pre- and postconditions (`TraceL.Hoare`).  The rules are the same for both forms of `Keeps`;
  `CtlL.Keeps.inv` / `.rel` pass between them.  The equations of `M` stand under three sets of names, one per namespace
  of their users; `msimp` rewrites with those of `DataL`.
-/

namespace Ftp.Session
open Ftp.Client

/-! ### the projections of a trace -/

theorem writes_append (a b : List Ev) : writes (a ++ b) = writes a ++ writes b := by
  simp [writes, List.filterMap_append]

theorem received_append (a b : List Ev) : received (a ++ b) = received a ++ received b := by
  simp [received, List.filterMap_append]

theorem opened_append (a b : List Ev) : opened (a ++ b) = opened a ++ opened b := by
  simp [opened, List.filterMap_append]
theorem closed_append (a b : List Ev) : closed (a ++ b) = closed a ++ closed b := by
  simp [closed, List.filterMap_append]

@[simp] theorem lineOf_cmd (c : Bytes) : lineOf (c ++ CRLF) = c := by
  simp [lineOf, CRLF]

theorem mem_writes {b : Bytes} {l : List Ev} : b ∈ writes l ↔ Ev.ctlWrite b ∈ l := by
  unfold writes
  rw [List.mem_filterMap]
  constructor
  · rintro ⟨e, he, h⟩
    cases e <;> cases h
    exact he
  · exact fun h => ⟨_, h, rfl⟩

theorem mem_received {r : Reply} {l : List Ev} : r ∈ received l ↔ Ev.ctlReply r.code r.text ∈ l := by
  unfold received
  rw [List.mem_filterMap]
  constructor
  · rintro ⟨e, he, h⟩
    cases e <;> cases h
    exact he
  · exact fun h => ⟨_, h, rfl⟩

theorem writes_eq_nil (l : List Ev) (h : ∀ e ∈ l, ∀ b, e ≠ Ev.ctlWrite b) : writes l = [] :=
  List.eq_nil_iff_forall_not_mem.2 fun b hb => h _ (mem_writes.1 hb) b rfl

theorem received_eq_nil (l : List Ev) (h : ∀ e ∈ l, ∀ c t, e ≠ Ev.ctlReply c t) : received l = [] :=
  List.eq_nil_iff_forall_not_mem.2 fun _ hr => h _ (mem_received.1 hr) _ _ rfl

end Ftp.Session

namespace Ftp.Client.TraceL

/-! ### the monad, pointwise -/

@[simp] theorem bind_apply {α β} (m : M α) (f : α → M β) (w : World) :
    (m >>= f) w = match m w with
      | (.ok a, w') => f a w'
      | (.throw, w') => (.throw, w') := rfl
@[simp] theorem pure_apply {α} (a : α) (w : World) : (pure a : M α) w = (.ok a, w) := rfl
@[simp] theorem throwE_apply {α} (w : World) : (throwE : M α) w = (.throw, w) := rfl
@[simp] theorem getW_apply (w : World) : getW w = (.ok w, w) := rfl
@[simp] theorem modifyW_apply (f : World → World) (w : World) : modifyW f w = (.ok (), f w) := rfl
@[simp] theorem emit_apply (e : Ev) (w : World) : emit e w = (.ok (), { w with trace := w.trace ++ [e] }) := rfl
@[simp] theorem forObservers_apply (f : Nat → Ev) (w : World) :
    forObservers f w = (.ok (), { w with trace := w.trace ++ w.observers.map f }) := rfl

/-! ### invariants -/

/-- the program keeps the invariant, whether it returns or throws -/
structure Keeps {α} (I : World → Prop) (m : M α) : Prop where
  h : ∀ w, I w → I (m w).2

section rules
variable {I : World → Prop} {α β : Type}

theorem keeps_pure (a : α) : Keeps I (pure a : M α) := ⟨fun _ h => h⟩
theorem keeps_throw : Keeps I (throwE : M α) := ⟨fun _ h => h⟩
theorem keeps_getW : Keeps I getW := ⟨fun _ h => h⟩

theorem keeps_bind {m : M α} {f : α → M β} (hm : Keeps I m) (hf : ∀ a, Keeps I (f a)) : Keeps I (m >>= f) := by
  refine ⟨fun w hw => ?_⟩
  have h1 := hm.h w hw
  simp only [bind_apply]
  rcases hmw : m w with ⟨r, w'⟩
  rw [hmw] at h1
  cases r with
  | ok a => exact (hf a).h w' h1
  | throw => exact h1

theorem keeps_withScope {body : M α} {cleanup : M Unit} (hb : Keeps I body) (hc : Keeps I cleanup) :
    Keeps I (withScope body cleanup) := by
  refine ⟨fun w hw => ?_⟩
  have h1 := hb.h w hw
  unfold withScope
  rcases hmw : body w with ⟨r, w'⟩
  rw [hmw] at h1
  have h2 := hc.h w' h1
  cases r with
  | ok a =>
    simp only
    rcases hcw : cleanup w' with ⟨r2, w''⟩
    rw [hcw] at h2
    cases r2 <;> exact h2
  | throw => exact h2

theorem keeps_ite {c : Prop} [Decidable c] {a b : M α} (ha : Keeps I a) (hb : Keeps I b) :
    Keeps I (if c then a else b) := by
  split <;> assumption

theorem keeps_modify {f : World → World} (h : ∀ w, I w → I (f w)) : Keeps I (modifyW f) := ⟨h⟩
theorem keeps_emit {e : Ev} (h : ∀ w, I w → I { w with trace := w.trace ++ [e] }) : Keeps I (emit e) := ⟨h⟩
theorem keeps_forObservers {f : Nat → Ev} (h : ∀ w, I w → I { w with trace := w.trace ++ w.observers.map f }) :
    Keeps I (forObservers f) := ⟨h⟩

end rules

/-! ### pre- and postconditions -/

def post {α} (Q : α → World → Prop) (E : World → Prop) : Res α × World → Prop
  | (.ok a, w) => Q a w
  | (.throw, w) => E w

@[simp] theorem post_ok {α} (Q : α → World → Prop) (E : World → Prop) (a : α) (w : World) : post Q E (.ok a, w) = Q a w := rfl
@[simp] theorem post_throw {α} (Q : α → World → Prop) (E : World → Prop) (w : World) :
    post Q E ((.throw : Res α), w) = E w := rfl

/-- from `P`, the program returns in `Q` or throws in `E` -/
structure Hoare {α} (P : World → Prop) (m : M α) (Q : α → World → Prop) (E : World → Prop) : Prop where
  h : ∀ w, P w → post Q E (m w)

section hoare
variable {P : World → Prop} {E : World → Prop} {α β : Type}

theorem hoare_pure {Q : α → World → Prop} (a : α) (h : ∀ w, P w → Q a w) : Hoare P (pure a : M α) Q E := ⟨h⟩
theorem hoare_throw {Q : α → World → Prop} (h : ∀ w, P w → E w) : Hoare P (throwE : M α) Q E := ⟨h⟩

theorem hoare_bind {m : M α} {f : α → M β} {Q : α → World → Prop} {Q' : β → World → Prop}
    (hm : Hoare P m Q E) (hf : ∀ a, Hoare (Q a) (f a) Q' E) : Hoare P (m >>= f) Q' E := by
  refine ⟨fun w hw => ?_⟩
  have h1 := hm.h w hw
  simp only [bind_apply]
  rcases hmw : m w with ⟨r, w'⟩
  rw [hmw] at h1
  cases r with
  | ok a => exact (hf a).h w' h1
  | throw => exact h1

theorem hoare_getW {Q : World → World → Prop} (h : ∀ w, P w → Q w w) : Hoare P getW Q E := ⟨h⟩

/-- `getW` followed by a continuation: the continuation may assume it was handed a world satisfying `P` -/
theorem hoare_getW_bind {f : World → M β} {Q' : β → World → Prop}
    (hf : ∀ w₁, P w₁ → Hoare (fun w => w = w₁) (f w₁) Q' E) : Hoare P (getW >>= f) Q' E :=
  ⟨fun w hw => (hf w hw).h w rfl⟩

theorem hoare_conseq {m : M α} {P' : World → Prop} {Q Q' : α → World → Prop} {E' : World → Prop}
    (hm : Hoare P' m Q' E') (hp : ∀ w, P w → P' w) (hq : ∀ a w, Q' a w → Q a w) (he : ∀ w, E' w → E w) :
    Hoare P m Q E := by
  refine ⟨fun w hw => ?_⟩
  have h1 := hm.h w (hp w hw)
  rcases hmw : m w with ⟨r, w'⟩
  rw [hmw] at h1
  cases r with
  | ok a => exact hq a w' h1
  | throw => exact he w' h1

theorem hoare_of_keeps {I : World → Prop} {m : M α} (hk : Keeps I m) : Hoare I m (fun _ => I) I := by
  refine ⟨fun w hw => ?_⟩
  have h1 := hk.h w hw
  rcases hmw : m w with ⟨r, w'⟩
  rw [hmw] at h1
  cases r <;> exact h1

theorem keeps_of_hoare {I : World → Prop} {m : M α} (h : Hoare I m (fun _ => I) I) : Keeps I m := by
  refine ⟨fun w hw => ?_⟩
  have h1 := h.h w hw
  rcases hm : m w with ⟨r, w'⟩
  rw [hm] at h1
  cases r <;> exact h1

theorem hoare_keeps {I : World → Prop} {m : M α} (hk : Keeps I m) (he : ∀ w, I w → E w) :
    Hoare I m (fun _ => I) E :=
  hoare_conseq (hoare_of_keeps hk) (fun _ h => h) (fun _ _ h => h) he

theorem hoare_ite {c : Prop} [Decidable c] {a b : M α} {Q : α → World → Prop}
    (ha : c → Hoare P a Q E) (hb : ¬c → Hoare P b Q E) : Hoare P (if c then a else b) Q E := by
  split
  · exact ha ‹_›
  · exact hb ‹_›

theorem hoare_withScope {body : M α} {cleanup : M Unit} {Q : α → World → Prop} {Q' : α → World → Prop}
    {E' : World → Prop}
    (hb : Hoare P body Q E') (hc : ∀ a, Hoare (Q a) cleanup (fun _ => Q' a) E) (he : Hoare E' cleanup (fun _ => E) E) :
    Hoare P (withScope body cleanup) Q' E := by
  refine ⟨fun w hw => ?_⟩
  have h1 := hb.h w hw
  unfold withScope
  rcases hmw : body w with ⟨r, w'⟩
  rw [hmw] at h1
  cases r with
  | ok a =>
    have h2 := (hc a).h w' h1
    simp only
    rcases hcw : cleanup w' with ⟨r2, w''⟩
    rw [hcw] at h2
    cases r2 <;> exact h2
  | throw =>
    have h2 := he.h w' h1
    simp only
    rcases hcw : cleanup w' with ⟨r2, w''⟩
    rw [hcw] at h2
    cases r2 <;> exact h2

end hoare

end Ftp.Client.TraceL

namespace Ftp.Client.CtlL

theorem bind_apply {α β} (m : M α) (f : α → M β) (w : World) :
    (m >>= f) w = match m w with
      | (.ok a, w') => f a w'
      | (.throw, w') => (.throw, w') := rfl

theorem pure_apply {α} (a : α) (w : World) : (pure a : M α) w = (.ok a, w) := rfl

theorem modifyW_apply (f : World → World) (w : World) : modifyW f w = (.ok (), f w) := rfl

theorem bind_ok {α β} {m : M α} {f : α → M β} {w w' : World} {b : β} :
    (m >>= f) w = (.ok b, w') ↔ ∃ a w1, m w = (.ok a, w1) ∧ f a w1 = (.ok b, w') := by
  rw [bind_apply]
  rcases m w with ⟨a | _, w1⟩
  · constructor
    · intro h; exact ⟨a, w1, rfl, h⟩
    · rintro ⟨a', w1', h1, h2⟩
      simp only [Prod.mk.injEq, Res.ok.injEq] at h1
      obtain ⟨rfl, rfl⟩ := h1
      exact h2
  · simp

theorem pure_ok {α} {a b : α} {w w' : World} : (pure a : M α) w = (.ok b, w') ↔ a = b ∧ w = w' := by
  simp [pure]

theorem ite_ok {α} {c : Prop} [Decidable c] {a b : M α} {w w' : World} {x : α} :
    (if c then a else b) w = (.ok x, w') ↔ c ∧ a w = (.ok x, w') ∨ ¬c ∧ b w = (.ok x, w') := by
  split <;> simp [*]

/-- a `do` block hands the rest of the block to both branches of an `if` that binds a value: the `if` as one step -/
theorem ite_bind_ok {α β} {c : Prop} [Decidable c] {a b : M α} {k : α → M β} {w w' : World} {x : β} :
    (if c then a >>= k else b >>= k) w = (.ok x, w') ↔
      ∃ y w1, (if c then a else b) w = (.ok y, w1) ∧ k y w1 = (.ok x, w') := by
  split <;> exact bind_ok

theorem getW_ok {a w w' : World} : getW w = (.ok a, w') ↔ a = w ∧ w' = w := by
  simp [getW]; constructor <;> (rintro ⟨rfl, rfl⟩; exact ⟨rfl, rfl⟩)

theorem modifyW_ok {f : World → World} {u : Unit} {w w' : World} : modifyW f w = (.ok u, w') ↔ w' = f w := by
  simp [modifyW]; constructor <;> (intro h; exact h.symm)

/-! ### invariants of every path -/

/-- a relation between the world before and after that holds however the program ends -/
def Keeps {α} (R : World → World → Prop) (m : M α) : Prop := ∀ w, R w (m w).2

class IsPre (R : World → World → Prop) : Prop where
  refl : ∀ w, R w w
  trans : ∀ {a b c}, R a b → R b c → R a c

namespace Keeps

theorem ite {R : World → World → Prop} {α} {c : Prop} [Decidable c] {a b : M α} (ha : Keeps R a) (hb : Keeps R b) :
    Keeps R (if c then a else b) := by
  split <;> assumption

theorem of_eq {R : World → World → Prop} {α} {m : M α} (h : Keeps R m) {w w' : World} {r : Res α}
    (he : m w = (r, w')) : R w w' := by
  have := h w; rw [he] at this; exact this

variable {R : World → World → Prop} [IsPre R] {α β : Type}

/-- a preorder kept as a relation is, from every starting point `w₀`, an invariant -/
theorem inv {m : M α} (h : Keeps R m) (w₀ : World) : TraceL.Keeps (R w₀) m :=
  ⟨fun w hw => IsPre.trans hw (h w)⟩

theorem rel {m : M α} (h : ∀ w₀, TraceL.Keeps (R w₀) m) : Keeps R m :=
  fun w => (h w).h w (IsPre.refl w)

theorem pure (a : α) : Keeps R (Pure.pure a : M α) := fun w => IsPre.refl w
theorem throwE : Keeps R (Client.throwE : M α) := fun w => IsPre.refl w
theorem getW : Keeps R Client.getW := fun w => IsPre.refl w

theorem bind {m : M α} {f : α → M β} (hm : Keeps R m) (hf : ∀ a, Keeps R (f a)) : Keeps R (m >>= f) :=
  rel fun w₀ => TraceL.keeps_bind (hm.inv w₀) fun a => (hf a).inv w₀

set_option linter.unusedSectionVars false in
theorem mono {R' : World → World → Prop} {m : M α} (h : Keeps R m) (hr : ∀ w w', R w w' → R' w w') : Keeps R' m :=
  fun w => hr _ _ (h w)

end Keeps

/-! ### the events of the framed view (`isCtlEv`, `P0`); two relations with their rule for `forObservers` - the walks go
    through `Walk.Own`, of which `Rg P` is the instance `Own World.ttype P` -/

/-- the events of the framed control-channel view -/
def isCtlEv : Ev → Bool
  | .ctlWrite _ | .ctlReply _ _ => true
  | _ => false

/-- the transfer type is kept and the trace is extended by events that satisfy `P` -/
def Rg (P : Ev → Prop) (w w' : World) : Prop :=
  w'.ttype = w.ttype ∧ ∃ evs, w'.trace = w.trace ++ evs ∧ ∀ e ∈ evs, P e

def Rcanc (w w' : World) : Prop := w'.cancelled = w.cancelled

abbrev P0 : Ev → Prop := fun e => isCtlEv e = false

namespace Rg
variable {P : Ev → Prop}

theorem forObservers {f : Nat → Ev} (h : ∀ o, P (f o)) : Keeps (Rg P) (Client.forObservers f) := by
  intro w
  refine ⟨rfl, w.observers.map f, rfl, ?_⟩
  intro e he
  obtain ⟨o, _, rfl⟩ := List.mem_map.mp he
  exact h o

end Rg

namespace Rcanc
theorem forObservers (f : Nat → Ev) : Keeps Rcanc (Client.forObservers f) := fun _ => rfl
end Rcanc

end Ftp.Client.CtlL

namespace Ftp.Client.DataL
open Ftp.Session

variable {α β : Type}

theorem bind_eq (m : M α) (f : α → M β) (w : World) :
    (m >>= f) w = match m w with
      | (.ok a, w') => f a w'
      | (.throw, w') => (.throw, w') := rfl

theorem bind_ok {m : M α} {f : α → M β} {w w' : World} {a : α} (h : m w = (.ok a, w')) :
    (m >>= f) w = f a w' := by rw [bind_eq, h]

@[simp] theorem pure_run (a : α) (w : World) : (pure a : M α) w = (.ok a, w) := rfl
@[simp] theorem getW_run (w : World) : getW w = (.ok w, w) := rfl
@[simp] theorem modifyW_run (g : World → World) (w : World) : modifyW g w = (.ok (), g w) := rfl
@[simp] theorem emit_run (e : Ev) (w : World) : emit e w = (.ok (), { w with trace := w.trace ++ [e] }) := rfl
@[simp] theorem throwE_run (w : World) : (throwE : M α) w = (.throw, w) := rfl
@[simp] theorem pure_bind_run (a : α) (f : α → M β) (w : World) : (pure a >>= f) w = f a w := rfl
@[simp] theorem getW_bind (f : World → M β) (w : World) : (getW >>= f) w = f w w := rfl
@[simp] theorem modifyW_bind (g : World → World) (f : Unit → M β) (w : World) : (modifyW g >>= f) w = f () (g w) := rfl
@[simp] theorem emit_bind (e : Ev) (f : Unit → M β) (w : World) :
    (emit e >>= f) w = f () { w with trace := w.trace ++ [e] } := rfl
@[simp] theorem throwE_bind (f : α → M β) (w : World) : ((throwE : M α) >>= f) w = (.throw, w) := rfl
@[simp] theorem ite_run (c : Prop) [Decidable c] (a b : M α) (w : World) :
    (if c then a else b) w = if c then a w else b w := by split <;> rfl
@[simp] theorem ite_bind (c : Prop) [Decidable c] (a b : M α) (f : α → M β) (w : World) :
    ((if c then a else b) >>= f) w = if c then (a >>= f) w else (b >>= f) w := by split <;> rfl

theorem added_of_trace (m : M α) (w : World) (l : List Ev) (h : (after m w).trace = w.trace ++ l) :
    added m w = l := by
  simp [added, h]

theorem bind_assoc_run {γ : Type} (m : M α) (g : α → M β) (f : β → M γ) (w : World) :
    ((m >>= g) >>= f) w = (m >>= fun a => g a >>= f) w := by
  rw [bind_eq, bind_eq, bind_eq]
  rcases m w with ⟨r | _, w'⟩ <;> rfl

theorem forObservers_run (f : Nat → Ev) (w : World) :
    forObservers f w = (.ok (), { w with trace := w.trace ++ w.observers.map f }) := rfl

theorem forObservers_bind (f : Nat → Ev) (g : Unit → M β) (w : World) :
    (forObservers f >>= g) w = g () { w with trace := w.trace ++ w.observers.map f } := rfl

theorem ctlClose_run (w : World) : ctlClose w =
    (.ok (), { w with connected := false, trace := w.trace ++ [.ctlShutdown] ++ [.ctlClose] }) := rfl

theorem ctlClose_bind (g : Unit → M β) (w : World) : (ctlClose >>= g) w =
    g () { w with connected := false, trace := w.trace ++ [.ctlShutdown] ++ [.ctlClose] } := rfl

/-- symbolic execution of the primitives of `M` -/
syntax "msimp" ("[" Lean.Parser.Tactic.simpLemma,* "]")? (Lean.Parser.Tactic.location)? : tactic
macro_rules
  | `(tactic| msimp $[$loc:location]?) => `(tactic| msimp [] $[$loc]?)
  | `(tactic| msimp [$ts,*] $[$loc:location]?) => `(tactic| simp only [pure_run, getW_run, modifyW_run, emit_run,
      throwE_run, pure_bind_run, getW_bind, modifyW_bind, emit_bind, throwE_bind, ite_run, ite_bind, bind_assoc_run, forObservers_run,
      forObservers_bind, ctlClose_run, ctlClose_bind, Bool.false_eq_true,
      if_false, if_true, $ts,*] $[$loc]?)

end Ftp.Client.DataL
