import Ftp.Lemmas.ClientWalk
/-
  The primitive programs of the control channel and of the data connection object, each as one equation
  `prim w = (result, world)` with the world written out as a function of the world before (`dataDisconnect`: on an open
  socket, `dataDisconnect_sock`; the sink, the source and the block transfers: in `ClientData`).  What a primitive does
  on a particular path is a case of its equation; what it leaves alone is its frame in `Ftp.Client.Walk`, read off a run
  by `.of_eq`.  The composite programs are written over their parts (`passiveRest`, `activeTail`, `moveBody`, `greet` ..,
  defined here), so that what differs between two of them is a parameter (`passive`, `xfer`,
  `createDataConnection_method`).
-/
namespace Ftp.Client.DataL

theorem closeD_run (d : Nat) (w : World) : closeD d w =
    (.ok (w.closeFails.head?.getD false),
      { w with closeFails := w.closeFails.tail, trace := w.trace ++ [.dataClose d] }) := rfl

theorem closeD_bind {β : Type} (d : Nat) (f : Bool → M β) (w : World) : (closeD d >>= f) w =
    f (w.closeFails.head?.getD false) { w with closeFails := w.closeFails.tail, trace := w.trace ++ [.dataClose d] } := rfl

theorem poll_run (w : World) : poll w =
    (.ok (w.cancelled || w.polls.head?.getD false),
     { w with polls := w.polls.tail, cancelled := (w.cancelled || w.polls.head?.getD false),
              trace := w.trace ++ [.cbPoll (w.cancelled || w.polls.head?.getD false)] }) := rfl

theorem poll_bind {β : Type} (f : Bool → M β) (w : World) : (poll >>= f) w =
    f (w.cancelled || w.polls.head?.getD false)
     { w with polls := w.polls.tail, cancelled := (w.cancelled || w.polls.head?.getD false),
              trace := w.trace ++ [.cbPoll (w.cancelled || w.polls.head?.getD false)] } := rfl

theorem head_getD_const (c : Bool) (l : List Bool) (h : ∀ b ∈ l, b = c) : l.head?.getD c = c := by
  cases l with
  | nil => rfl
  | cons b t => simpa using h b (by simp)

end Ftp.Client.DataL

namespace Ftp.Client.CancelL

def pollW (w : World) : World :=
  { w with polls := w.polls.tail, cancelled := (w.cancelled || w.polls.head?.getD false),
           trace := w.trace ++ [.cbPoll (w.cancelled || w.polls.head?.getD false)] }

theorem poll_bind' {β : Type} (f : Bool → M β) (w : World) :
    (poll >>= f) w = f (w.cancelled || w.polls.head?.getD false) (pollW w) := rfl

end Ftp.Client.CancelL

namespace Ftp.Client.CtlL
open Ftp.Endpoint

theorem bind_assoc_M {α β γ} (m : M α) (f : α → M β) (g : β → M γ) :
    (m >>= f) >>= g = m >>= fun a => f a >>= g := by
  funext w
  simp only [bind_apply]
  rcases m w with ⟨a | _, w1⟩ <;> rfl

theorem run_of_result {α} {m : M α} {w : World} {a : α} (h : Session.result m w = .ok a) :
    m w = (.ok a, Session.after m w) := by
  unfold Session.result at h
  unfold Session.after
  rw [← h]

@[simp] theorem append_list (rs : Replies) (r : Reply) : (rs.append r).list = rs.list ++ [r] := by
  unfold Replies.append; split; rfl; split <;> rfl

theorem mkCmd_eq (v : String) (a : Option Bytes) (w : World) :
    mkCmd v a w = ((match makeCommand (str v) a with | some c => Res.ok c | none => Res.throw), w) := by
  unfold mkCmd; cases makeCommand (str v) a <;> rfl

theorem mkCmd_ok {v : String} {a : Option Bytes} {c : Bytes} {w w' : World} (h : mkCmd v a w = (.ok c, w')) :
    makeCommand (str v) a = some c ∧ w' = w := by
  rw [mkCmd_eq] at h
  obtain ⟨h1, h2⟩ := Prod.mk.inj h
  split at h1
  · rename_i c' hm
    exact ⟨by rw [hm, Res.ok.inj h1], h2.symm⟩
  · cases h1

theorem mkCmd_succ (v : String) (a : Bytes) (w : World) (ha : hasCrLf a = false) :
    mkCmd v (some a) w = (.ok (str v ++ [SP] ++ a), w) := by
  unfold mkCmd makeCommand
  simp only [ha, Bool.false_eq_true, if_false]
  rfl

end Ftp.Client.CtlL

namespace Ftp.Client.SessL
open Ftp.Endpoint Ftp.Client.Walk Ftp.Client.CtlL

variable {α β : Type}

/-! ### the control channel -/

def headG (script : List Group) : Group :=
  match script with
  | g :: _ => g
  | [] => { raws := [str "500 script exhausted\r\n"] }

/-- the world after a command has been written -/
def sendW (cmd : Bytes) (w : World) : World :=
  { w with trace := w.trace ++ w.observers.map (fun o => Ev.obsRequest o cmd) ++ [.ctlWrite (cmd ++ CRLF)],
           script := w.script.tail,
           net := { w.net with stream := w.net.stream ++ (headG w.script).raws.flatten },
           act := match (headG w.script).act with | some a => some a | none => w.act }

/-- the world after a write on a closed connection -/
def failW (cmd : Bytes) (w : World) : World :=
  { w with trace := w.trace ++ w.observers.map (fun o => Ev.obsRequest o cmd) ++ [.ctlWriteFail (cmd ++ CRLF)] }

theorem ctlSend_eq (c : Bytes) (w : World) :
    ctlSend c w = if w.connected then (.ok (), sendW c w) else (.throw, failW c w) := by
  unfold ctlSend forObservers
  simp only [CtlL.bind_apply, getW, modifyW, emit]
  split <;> split <;> first | rfl | simp_all

theorem ctlSend_conn (cmd : Bytes) (w : World) (h : w.connected = true) : ctlSend cmd w = (.ok (), sendW cmd w) := by
  rw [ctlSend_eq, h]; rfl

theorem ctlSend_ok_iff {c : Bytes} {w w' : World} {u : Unit} :
    ctlSend c w = (.ok u, w') ↔ w.connected = true ∧ w' = sendW c w := by
  rw [ctlSend_eq]
  cases w.connected
  · simp
  · simp only [if_true, Prod.mk.injEq, true_and]
    exact ⟨fun h => h.symm, fun h => h.symm⟩

/-- what the reader makes of the unread bytes -/
def rcv (w : World) : Reader.RecvR × Reader.Ctl × Reader.Net := Reader.recv { w.ctl with closed := false } w.net

def replyEvs (obs : List Nat) (code : Nat) (text : Bytes) : List Ev :=
  [.ctlReadLine, .ctlReply code text] ++ (if code = 421 then [.ctlShutdown, .ctlClose] else []) ++
    obs.map (fun o => Ev.obsReply o code text)

theorem replyEvs_quiet (obs : List Nat) (code : Nat) (text : Bytes) : ∀ e ∈ replyEvs obs code text, isQuietEv e = true := by
  intro e he
  simp only [replyEvs, List.mem_append, List.mem_map, List.mem_cons, List.not_mem_nil, or_false] at he
  rcases he with ((rfl | rfl) | he) | ⟨o, _, rfl⟩ <;> try rfl
  split at he
  · simp only [List.mem_cons, List.not_mem_nil, or_false] at he
    rcases he with rfl | rfl <;> rfl
  · cases he

/-- the world after a reply has been framed -/
def gotW (w : World) (code : Nat) (text : Bytes) : World :=
  { w with ctl := (rcv w).2.1, net := (rcv w).2.2, connected := (if code = 421 then false else w.connected),
           trace := w.trace ++ replyEvs w.observers code text }

/-- the world after a receive that framed no reply -/
def lostW (w : World) : World := { w with ctl := (rcv w).2.1, net := (rcv w).2.2, trace := w.trace ++ [.ctlReadLine] }

theorem ctlRecv_eq (w : World) : ctlRecv w =
    if w.connected then
      match (rcv w).1 with
      | .reply code text => (.ok ⟨code, text⟩, gotW w code text)
      | _ => (.throw, lostW w)
    else (.throw, { w with trace := w.trace ++ [.ctlReadLine] }) := by
  unfold ctlRecv
  msimp
  by_cases hc : w.connected = true
  case neg => rw [if_pos (by simpa using hc), if_neg hc]
  case pos =>
    rw [if_neg (by simp [hc]), if_pos hc]
    rcases hr : rcv w with ⟨rr, c', net'⟩
    have hr' : Reader.recv { w.ctl with closed := false } w.net = (rr, c', net') := hr
    rw [hr']
    cases rr with
    | reply code text =>
      by_cases h421 : code = 421
      · subst h421; msimp; simp [gotW, replyEvs, hr]
      · have : (code == 421) = false := by simpa using h421
        msimp [this]; simp [gotW, replyEvs, hr, h421]
    | error => simp only [lostW, hr]; rfl
    | fuel => simp only [lostW, hr]; rfl

theorem ctlRecv_ok_iff {w w' : World} {r : Reply} :
    ctlRecv w = (.ok r, w') ↔ w.connected = true ∧ (rcv w).1 = .reply r.code r.text ∧ w' = gotW w r.code r.text := by
  rw [ctlRecv_eq]
  cases hc : w.connected
  · simp
  · simp only [if_true, true_and]
    rcases hr : (rcv w).1 with _ | _ | _ <;> simp
    rename_i code text
    constructor
    · rintro ⟨rfl, rfl⟩; exact ⟨⟨rfl, rfl⟩, rfl⟩
    · rintro ⟨⟨rfl, rfl⟩, rfl⟩; exact ⟨rfl, rfl⟩

theorem gotW_trace (w : World) (code : Nat) (text : Bytes) :
    (gotW w code text).trace = w.trace ++ replyEvs w.observers code text := rfl

theorem gotW_connected (w : World) (code : Nat) (text : Bytes) (hc : w.connected = true) (h : code ≠ 421) :
    (gotW w code text).connected = true := by simp [gotW, h, hc]

theorem recvInto_ok_iff {rs rs' : Replies} {w w' : World} {r : Reply} :
    recvInto rs w = (.ok (r, rs'), w') ↔ ctlRecv w = (.ok r, w') ∧ rs' = rs.append r := by
  unfold recvInto
  rw [CtlL.bind_apply]
  rcases ctlRecv w with ⟨r0 | _, w0⟩ <;> simp
  constructor
  · rintro ⟨⟨rfl, rfl⟩, rfl⟩; exact ⟨⟨rfl, rfl⟩, rfl⟩
  · rintro ⟨⟨rfl, rfl⟩, rfl⟩; exact ⟨⟨rfl, rfl⟩, rfl⟩

theorem recvInto_run {w w' : World} {r : Reply} (rs : Replies) (h : ctlRecv w = (.ok r, w')) :
    recvInto rs w = (.ok (r, rs.append r), w') := recvInto_ok_iff.mpr ⟨h, rfl⟩

theorem recvInto_readLine (rs : Replies) (w : World) :
    ∃ l, (recvInto rs w).2.trace = w.trace ++ .ctlReadLine :: l ∧ ∀ e ∈ l, isQuietEv e = true := by
  have hw : (recvInto rs w).2 = (ctlRecv w).2 := by
    unfold recvInto
    rw [CtlL.bind_apply]
    rcases ctlRecv w with ⟨r | _, w1⟩ <;> rfl
  rw [hw, ctlRecv_eq]
  split
  · split
    · rename_i code text _
      exact ⟨_, gotW_trace .., fun e he => replyEvs_quiet _ _ _ e (List.mem_cons_of_mem _ he)⟩
    · exact ⟨[], rfl, nofun⟩
  · exact ⟨[], rfl, nofun⟩

theorem processCommand_ok_iff {c : Bytes} {w w' : World} {r : Reply} :
    processCommand c w = (.ok r, w') ↔ w.connected = true ∧ ctlRecv (sendW c w) = (.ok r, w') := by
  unfold processCommand
  rw [CtlL.bind_apply, ctlSend_eq]
  cases w.connected <;> simp

theorem processCommandInto_ok_iff {c : Bytes} {rs rs' : Replies} {w w' : World} {r : Reply} :
    processCommandInto c rs w = (.ok (r, rs'), w') ↔
      w.connected = true ∧ ctlRecv (sendW c w) = (.ok r, w') ∧ rs' = rs.append r := by
  unfold processCommandInto
  rw [CtlL.bind_apply, ctlSend_eq]
  cases w.connected
  · simp
  · simp only [if_true, true_and]
    exact recvInto_ok_iff

theorem processCommandInto_step (c : Bytes) (rs : Replies) : Keeps CtlStep (processCommandInto c rs) :=
  ctlStep_of fun C => keeps_processCommandInto C trivial rs

theorem recvInto_step (rs : Replies) : Keeps CtlStep (recvInto rs) := ctlStep_of fun C => keeps_recvInto C rs

/-! ### steps that leave the control channel alone -/

abbrev Rdat := Own (fun w => (ctlPart w, cfgPart w)) (isCtl · = false)

namespace Rdat
variable {w w' : World}

theorem of_desc (h : DescStep w w') : Rdat w w' :=
  h.mono (fun _ _ h => congrArg (fun x => (x.1, x.2.1)) h) fun e he => by cases e <;> first | rfl | cases he

theorem of_move (h : MoveStep w w') : Rdat w w' :=
  h.mono (fun _ _ h => congrArg (fun x => (x.1, x.2.1)) h) fun e he => by cases e <;> first | rfl | cases he

theorem of_list (h : ListStep w w') : Rdat w w' :=
  h.mono (fun _ _ h => congrArg (fun x => (x.1, x.2.1)) h) fun e he => by cases e <;> first | rfl | cases he

theorem ctl (h : Rdat w w') : w'.ctl = w.ctl := congrArg (·.1.ctl) h.1
theorem net (h : Rdat w w') : w'.net = w.net := congrArg (·.1.net) h.1
theorem script (h : Rdat w w') : w'.script = w.script := congrArg (·.1.script) h.1
theorem connected (h : Rdat w w') : w'.connected = w.connected := congrArg (·.1.connected) h.1

end Rdat

/-! ### the data connection -/

/-- the world after a successful `dataConnect` -/
def dcW (addr : Bytes) (port : Nat) (w : World) : World :=
  { w with nextD := w.nextD + 1, connectOks := w.connectOks.tail, conn := some { sock := some w.nextD },
           trace := w.trace ++ [.dataSocket w.nextD, .dataConnect w.nextD addr port true] }

/-- ... and after one that failed: the descriptor is closed again -/
def dcFailW (addr : Bytes) (port : Nat) (w : World) : World :=
  { w with nextD := w.nextD + 1, connectOks := w.connectOks.tail, closeFails := w.closeFails.tail,
           trace := w.trace ++ [.dataSocket w.nextD, .dataConnect w.nextD addr port false, .dataClose w.nextD] }

theorem dataConnect_eq (addr : Bytes) (port : Nat) (w : World) : dataConnect addr port w =
    if w.connectOks.head?.getD false then (.ok (), dcW addr port w) else (.throw, dcFailW addr port w) := by
  unfold dataConnect newDescriptor
  cases h : w.connectOks.head?.getD false <;> (msimp [h, DataL.closeD_bind]) <;> simp [dcW, dcFailW]

theorem dataConnect_ok (addr : Bytes) (port : Nat) (w : World) (h : w.connectOks.head?.getD false = true) :
    dataConnect addr port w = (.ok (), dcW addr port w) := by
  rw [dataConnect_eq, h]; rfl

def listenW (w : World) : World :=
  { w with nextD := w.nextD + 1, listenPorts := w.listenPorts.tail, conn := some { acc := some w.nextD },
           trace := w.trace ++ [.dataSocket w.nextD, .dataBind w.nextD (addrText w) 0 (w.listenPorts.head?.getD 0),
             .dataListen w.nextD] }

theorem dataListen_run (w : World) : dataListen w = (.ok (w.listenPorts.head?.getD 0), listenW w) := by
  unfold dataListen newDescriptor
  msimp
  simp [listenW, addrText]

def acceptW (a : Nat) (w : World) : World :=
  { w with nextD := w.nextD + 1, conn := some { sock := some w.nextD, acc := some a },
           trace := w.trace ++ [.dataAccept a w.nextD] }

theorem dataAccept_eq (w : World) : dataAccept w =
    match w.conn with
    | some c => (match c.acc with
      | some a => (.ok (), acceptW a w)
      | none => (.throw, w))
    | none => (.throw, w) := by
  unfold dataAccept
  rcases hc : w.conn with _ | ⟨s, acc⟩
  · msimp [hc]
  · rcases acc with _ | a
    · msimp [hc]
    · msimp [hc]
      rfl

theorem dataAccept_ok (w : World) (c : DataConn) (a : Nat) (hc : w.conn = some c) (ha : c.acc = some a) :
    dataAccept w = (.ok (), acceptW a w) := by
  rw [dataAccept_eq, hc]
  simp only [ha]

/-- the world after a data connection object with an open socket `d` (and acceptor `a`) has been disconnected without
    a reported error: gracefully (`g`) with a shutdown first -/
def dropW (g : Bool) (d : Nat) (a : Option Nat) (w : World) : World :=
  { w with closeFails := w.closeFails.drop (1 + a.toList.length), conn := some { sock := none, acc := none },
           trace := w.trace ++ ((if g then [.dataShutdown d] else []) ++ .dataClose d :: a.toList.map Ev.dataClose) }

/-- `dataDisconnect` on a data connection object whose socket `d` is open: `d` is (shut down and) closed first; the
    call returns unless a close reports an error, and then it has closed the acceptor as well -/
theorem dataDisconnect_sock (g : Bool) (w : World) (d : Nat) (a : Option Nat)
    (hc : w.conn = some { sock := some d, acc := a }) :
    (∃ l, (dataDisconnect g w).2.trace = w.trace ++ ((if g then [.dataShutdown d] else []) ++ .dataClose d :: l)) ∧
    ((dataDisconnect g w).1 = .ok () ↔
      w.closeFails.head?.getD false = false ∧ (a.isSome → w.closeFails.tail.head?.getD false = false)) ∧
    ((dataDisconnect g w).1 = .ok () → (dataDisconnect g w).2 = dropW g d a w) := by
  unfold dataDisconnect
  rcases a with _ | a <;> (msimp [hc, DataL.closeD_bind]) <;> cases g <;>
    cases h1 : w.closeFails.head?.getD false <;> cases h2 : w.closeFails.tail.head?.getD false <;>
    simp [dropW, ← List.tail_drop]

theorem dataDisconnect_ok (g : Bool) (w : World) (d : Nat) (a : Option Nat)
    (hc : w.conn = some { sock := some d, acc := a }) (hcl : ∀ b ∈ w.closeFails, b = false) :
    dataDisconnect g w = (.ok (), dropW g d a w) := by
  obtain ⟨_, hr, hw⟩ := dataDisconnect_sock g w d a hc
  have h := hr.mpr ⟨DataL.head_getD_const _ _ hcl,
    fun _ => DataL.head_getD_const _ _ fun b hb => hcl b (List.mem_of_mem_tail hb)⟩
  exact Prod.ext h (hw h)

/-- the world after the destructor of the data connection object: the acceptor is closed first, then the socket -/
def destroyW (w : World) : World :=
  match w.conn with
  | none => w
  | some c =>
    { w with closeFails := w.closeFails.drop ((c.acc.toList ++ c.sock.toList).length), conn := none,
             trace := w.trace ++ (c.acc.toList ++ c.sock.toList).map Ev.dataClose }

theorem destroyConn_eq (w : World) : destroyConn w = (.ok (), destroyW w) := by
  unfold destroyConn destroyW
  rcases hc : w.conn with _ | ⟨sock, acc⟩
  · msimp [hc]
  · rcases sock with _ | s <;> rcases acc with _ | a <;> (msimp [hc, DataL.closeD_bind]) <;>
      simp [← List.tail_drop]

theorem destroyW_done (w : World) (h : w.conn = some { sock := none, acc := none }) :
    destroyW w = { w with conn := none } := by
  simp [destroyW, h]

theorem withScope_ok_eq {body : M α} {w w1 : World} {a : α} (h : body w = (.ok a, w1)) :
    withScope body destroyConn w = (.ok a, destroyW w1) := by
  unfold withScope
  rw [h]
  simp only [destroyConn_eq]

/-! ### the composite programs in terms of their parts -/

/-- what follows the connect in the passive set-up -/
def passiveRest (cmd : Bytes) (rs : Replies) : M (Bool × Replies) := do
  let (r, rs) ← processCommandInto cmd rs
  if r.isNegative then
    dataDisconnect true
    pure (false, rs)
  else pure (true, rs)

/-- the passive set-up over its verb, the parser of its reply and the way it connects: `processEpsv` and
    `processPasv` are the two instances -/
def passive {β : Type} (verb : String) (parse : Bytes → Option β) (conn : β → M Unit) (cmd : Bytes) (rs : Replies) :
    M (Bool × Replies) := do
  let c ← mkCmd verb none
  let (r, rs) ← processCommandInto c rs
  if r.isNegative then pure (false, rs)
  else
    match parse r.text with
    | none => throwE
    | some x => do
      conn x
      passiveRest cmd rs

theorem processEpsv_eq (cmd : Bytes) (rs : Replies) :
    processEpsv cmd rs = passive "EPSV" parseEpsv (fun port => do let w ← getW; dataConnect (addrText w) port) cmd rs := by
  unfold processEpsv passive passiveRest
  congr 1; funext c; congr 1; funext ⟨r, rs1⟩
  dsimp only
  split
  · rfl
  · rcases parseEpsv r.text with _ | port <;> rfl

theorem processPasv_eq (cmd : Bytes) (rs : Replies) :
    processPasv cmd rs = passive "PASV" parsePasv (fun x => dataConnect x.1 x.2) cmd rs := by
  unfold processPasv passive passiveRest
  congr 1; funext c; congr 1; funext ⟨r, rs1⟩
  dsimp only
  split
  · rfl
  · rcases parsePasv r.text with _ | ⟨ip, port⟩ <;> rfl

/-- the line the active set-up advertises -/
def activeLine (eprt : Bool) (w : World) : Option Bytes :=
  if eprt then some (fmtEprt (if w.v6 then .v6 else .v4) (addrText w) (w.listenPorts.head?.getD 0))
  else fmtPort (if w.v6 then .v6 else .v4) (addrText w) (w.listenPorts.head?.getD 0)

/-- the two commands of the active set-up, once the line `c` has been built -/
def activeTail (c cmd : Bytes) (rs : Replies) : M (Bool × Replies) := do
  let (r, rs) ← processCommandInto c rs
  if r.isNegative then pure (false, rs)
  else
    let (r, rs) ← processCommandInto cmd rs
    if r.isNegative then pure (false, rs)
    else
      dataAccept
      pure (true, rs)

/-- ... after the line has been written -/
def activeRest (cmd : Bytes) (rs : Replies) : M (Bool × Replies) := do
  let (r, rs) ← recvInto rs
  if r.isNegative then pure (false, rs)
  else
    let (r, rs) ← processCommandInto cmd rs
    if r.isNegative then pure (false, rs)
    else
      dataAccept
      pure (true, rs)

theorem processActive_eq (eprt : Bool) (cmd : Bytes) (rs : Replies) (w : World) :
    processActive eprt cmd rs w = match activeLine eprt w with
      | some c => activeTail c cmd rs (listenW w)
      | none => (.throw, listenW w) := by
  unfold processActive activeTail
  rw [CtlL.bind_apply, dataListen_run]
  cases eprt with
  | true => rfl
  | false =>
    have e : activeLine false w = fmtPort (if (listenW w).v6 = true then Family.v6 else Family.v4)
        (addrText (listenW w)) (w.listenPorts.head?.getD 0) := by simp only [activeLine, Bool.false_eq_true, if_false]; rfl
    rw [e]
    msimp
    split <;> rfl

theorem processActive_run (eprt : Bool) (cmd : Bytes) (rs : Replies) (w : World) (c : Bytes)
    (hc : w.connected = true) (hl : activeLine eprt w = some c) :
    processActive eprt cmd rs w = activeRest cmd rs (sendW c (listenW w)) := by
  rw [processActive_eq, hl]
  unfold activeTail activeRest processCommandInto
  msimp
  rw [DataL.bind_ok (ctlSend_conn c (listenW w) hc)]

/-- the method of the set-up: passive over a verb, the parser of its reply and a way to connect to what was parsed,
    or active with EPRT or PORT -/
theorem createDataConnection_method (cmd : Bytes) (rs : Replies) (w : World) :
    (w.mode = .passive ∧ ∃ (β : Type) (verb : String) (parse : Bytes → Option β) (conn : β → M Unit),
      createDataConnection cmd rs w = passive verb parse conn cmd rs w ∧
      str verb = (if w.rfc then str "EPSV" else str "PASV") ∧
      (∀ t, (if w.rfc then (parseEpsv t).isSome else (parsePasv t).isSome) = true → ∃ x, parse t = some x) ∧
      ∀ x w', ∃ addr port, conn x w' = dataConnect addr port w') ∨
    (w.mode = .active ∧ createDataConnection cmd rs w = processActive w.rfc cmd rs w) := by
  have e : createDataConnection cmd rs w = (match w.mode, w.rfc with
      | .passive, true => processEpsv cmd rs
      | .passive, false => processPasv cmd rs
      | .active, true => processActive true cmd rs
      | .active, false => processActive false cmd rs) w := rfl
  rw [e]
  rcases hm : w.mode <;> rcases hr : w.rfc
  · exact .inl ⟨rfl, _, "PASV", parsePasv, fun x => dataConnect x.1 x.2, by rw [processPasv_eq], rfl,
      fun t h => Option.isSome_iff_exists.mp h, fun x w' => ⟨x.1, x.2, rfl⟩⟩
  · exact .inl ⟨rfl, _, "EPSV", parseEpsv, fun port => do let w ← getW; dataConnect (addrText w) port,
      by rw [processEpsv_eq], rfl, fun t h => Option.isSome_iff_exists.mp h, fun x w' => ⟨addrText w', x, rfl⟩⟩
  · exact .inr ⟨rfl, rfl⟩
  · exact .inr ⟨rfl, rfl⟩

/-- download, upload and listing: what they do with a ready data connection (`body`), and what they return without
    one (`dflt`) -/
def xfer {α : Type} (verb : String) (arg : Option Bytes) (body : Replies → M α) (dflt : Replies → α) : M α :=
  withScope (do
    let c ← mkCmd verb arg
    let (ready, rs) ← createDataConnection c Replies.empty
    if ready then body rs else pure (dflt rs)) destroyConn

/-- the body of download (`mv := dataRecv cb`) and upload (`mv := dataSend cb`) -/
def moveBody (cb : Bool) (mv : TType → M Unit) (rs : Replies) : M Replies := do
  let w ← getW
  mv w.ttype
  finishTransfer cb rs

def listBody (rs : Replies) : M (Replies × Bytes) := do
  let w ← getW
  modifyW fun w => { w with sinkSilent := true, sink := [], sinkFailAt := none }
  dataRecv false w.ttype
  let w ← getW
  TraceL.listingNotify w.sink
  dataDisconnect true
  let (_, rs) ← recvInto rs
  pure (rs, w.sink)

theorem download_eq (path : Bytes) (cb : Bool) :
    download path cb = xfer "RETR" (some path) (moveBody cb (dataRecv cb)) id := rfl

theorem upload_eq (verb : String) (path : Bytes) (cb : Bool) :
    upload verb path cb = xfer verb (some path) (moveBody cb (dataSend cb)) id := rfl

theorem fileList_eq (path : Option Bytes) (names : Bool) :
    fileList path names = xfer (if names then "NLST" else "LIST") path listBody (fun rs => (rs, [])) := rfl

/-- the replies to ABOR: one, or two if the first is 426 -/
def abortReplies (rs : Replies) : M Replies :=
  recvInto rs >>= fun x => if x.1.code == 426 then recvInto x.2 >>= fun y => pure y.2 else pure x.2

theorem abortReplies_quiet (rs : Replies) : Keeps QuietStep (abortReplies rs) := by
  refine .bind (recvInto_own rs) fun x => ?_
  split
  · exact .bind (recvInto_own _) fun _ => .pure _
  · exact .pure _

theorem finishTransfer_abort (rs : Replies) (w : World) (hpoll : (w.cancelled || w.polls.head?.getD false) = true)
    (hconn : w.connected = true) :
    finishTransfer true rs w = (abortReplies rs >>= fun rs' => dataDisconnect false >>= fun _ => pure rs')
      (sendW (str "ABOR") (CancelL.pollW w)) := by
  have hmk : mkCmd "ABOR" none = pure (str "ABOR") := rfl
  unfold finishTransfer
  simp only [if_true]
  rw [CancelL.poll_bind', hpoll]
  unfold processAbort processCommandInto abortReplies
  rw [hmk]
  msimp [DataL.bind_ok (ctlSend_conn (str "ABOR") (CancelL.pollW w) hconn)]

/-- the world after `connect` has dropped the old connection, if there was one, and opened the new one -/
def openW (h : Bytes) (p : Nat) (w : World) : World :=
  { w with ctl := {}, connected := true, script := w.script.tail,
           net := { w.net with stream := (match w.script with | g :: _ => g | [] => { raws := [] }).raws.flatten },
           trace := w.trace ++ (if w.connected then [.ctlClose] else []) ++ [.ctlConnect h p] ++
             w.observers.map (fun o => Ev.obsConnected o h p) }

/-- the greeting phase of `connect`: one reply, and a second one after 120 -/
def greet : M (Reply × Replies) := do
  let (r, rs) ← recvInto Replies.empty
  if r.code == 120 then recvInto rs else pure (r, rs)

def afterGreeting (cred : Option (Bytes × Bytes)) (x : Reply × Replies) : M Replies :=
  if x.1.isNegative then pure x.2
  else
    match cred with
    | some (u, p) => do let (_, rs) ← processLogin u p x.2; pure rs
    | none => pure x.2

/-- `connect` drops the old connection, if there is one, and opens the new one -/
def reopen (h : Bytes) (p : Nat) : M Unit := do
  let w0 ← getW
  if w0.connected then TraceL.connectDrop
  TraceL.connectOpen h p

theorem reopen_run (h : Bytes) (p : Nat) (w : World) : reopen h p w = (.ok (), openW h p w) := by
  unfold reopen TraceL.connectDrop TraceL.connectOpen
  cases hc : w.connected <;> (msimp [hc]) <;> simp [openW, hc] <;> rfl

theorem connect_eq (h : Bytes) (p : Nat) (cred : Option (Bytes × Bytes)) :
    connect h p cred = (do
      connectCheck cred
      reopen h p
      let x ← greet
      afterGreeting cred x) := by
  rw [Walk.connect_blocks]
  have ite_bind : ∀ {α β : Type} (c : Prop) [Decidable c] (a b : M α) (f : α → M β),
      (if c then a else b) >>= f = if c then a >>= f else b >>= f := by intros; split <;> rfl
  unfold reopen greet afterGreeting
  simp only [CtlL.bind_assoc_M, ite_bind]
  rfl

theorem connect_open (h : Bytes) (p : Nat) (cred : Option (Bytes × Bytes)) (w : World)
    (hcheck : connectCheck cred w = (.ok (), w)) :
    connect h p cred w = (greet >>= fun x => afterGreeting cred x) (openW h p w) := by
  rw [connect_eq, CtlL.bind_apply, hcheck]
  simp only
  rw [CtlL.bind_apply, reopen_run]

end Ftp.Client.SessL
