import Ftp.Lemmas.ClientOps
/-
  The forward run of a download whose callback reports cancellation at the poll after the j-th full block (C12o):
  set-up command, transfer command, j blocks, ABOR and its two replies, hard close, scope exit - in all four
  data-connection methods.
-/

namespace Ftp.Client.CancelL
open Ftp.Session Ftp.Props.C01 Ftp.Endpoint Ftp.Client.SessL Ftp.Client.OpsL Ftp.Client.Walk

/-- callback invocations and graceful shutdowns of a data descriptor -/
def noisy : Ev → Bool
  | .cbPoll _ | .cbBegin | .cbNotify _ | .cbEnd | .dataShutdown _ => true
  | _ => false

theorem ready_calm (e : Ev) (h : isCtl e = true ∨ isOpening e = true) : noisy e = false := by
  rcases h with h | h <;> cases e <;> first | rfl | cases h

/-! ### the receive loop until the callback reports cancellation -/

/-- the world after one full block has been read, written to an audible sink, notified and polled -/
def stepW (d : Nat) (payload : Bytes) (w : World) : World :=
  { w with dataReads := w.dataReads.tail, sinkWrites := w.sinkWrites + 1, sink := w.sink ++ payload.take 8192,
           polls := w.polls.tail, cancelled := (w.cancelled || w.polls.head?.getD false),
           trace := w.trace ++ [.dataRead d 8192, .sinkWrite 8192, .cbNotify 8192,
             .cbPoll (w.cancelled || w.polls.head?.getD false)] }

theorem recvLoop_step (d k : Nat) (payload : Bytes) (prev : Bool) (w : World)
    (hhd : w.dataReads.head?.getD (some 0) = some 8192) (hlen : 8192 ≤ payload.length)
    (hsf : w.sinkFailAt = none) (hss : w.sinkSilent = false) :
    recvLoop true .binary d (k + 1) payload prev w =
      if (w.cancelled || w.polls.head?.getD false) = true then (.ok (false, false), stepW d payload w)
      else recvLoop true .binary d k (payload.drop 8192) false (stepW d payload w) := by
  have htk : (payload.take (min 8192 8192)).length = 8192 := by rw [List.length_take]; omega
  have hb : (payload.take (min 8192 8192)).isEmpty = false := by
    cases hp' : payload.take (min 8192 8192) with
    | nil => rw [hp'] at htk; simp at htk
    | cons => rfl
  have hne : ¬ (w.sinkFailAt = some w.sinkWrites) := by rw [hsf]; simp
  rw [DataL.recvLoop_block true .binary d k payload prev w 8192 hhd hb, DataL.bind_eq, DataL.streamWrite_run, if_neg hne]
  msimp [DataL.bind_eq, DataL.poll_run]
  cases hc : (w.cancelled || w.polls.head?.getD false) <;>
    simp [stepW, DataL.conv, hss, Nat.min_eq_left hlen, hc]

def blockEvs (d : Nat) (b : Bool) : List Ev := [.dataRead d 8192, .sinkWrite 8192, .cbNotify 8192, .cbPoll b]

theorem recvLoop_cancel (d : Nat) : ∀ (i k : Nat) (payload : Bytes) (prev : Bool) (w : World)
    (more : List (Option Nat)) (mp : List Bool),
    w.dataReads = List.replicate (i + 1) (some 8192) ++ more →
    w.polls = List.replicate i false ++ true :: mp →
    w.cancelled = false → (i + 1) * 8192 ≤ payload.length → w.sinkFailAt = none → w.sinkSilent = false →
    ∃ w', recvLoop true .binary d (i + 1 + k) payload prev w = (.ok (false, false), w') ∧
      w'.trace = w.trace ++ ((List.replicate i (blockEvs d false)).flatten ++ blockEvs d true) ∧
      w'.sink = w.sink ++ payload.take ((i + 1) * 8192) ∧ w'.cancelled = true ∧ w'.sinkFailAt = none ∧
      w'.sinkSilent = false := by
  intro i
  induction i with
  | zero =>
    intro k payload prev w more mp hr hp hc hlen hsf hss
    have hhd : w.dataReads.head?.getD (some 0) = some 8192 := by rw [hr]; rfl
    have hpoll : (w.cancelled || w.polls.head?.getD false) = true := by rw [hc, hp]; rfl
    have hfuel : 0 + 1 + k = k + 1 := by omega
    rw [hfuel, recvLoop_step d k payload prev w hhd (by omega) hsf hss, if_pos hpoll]
    refine ⟨_, rfl, ?_, ?_, hpoll, hsf, hss⟩
    · simp [stepW, blockEvs, hpoll]
    · simp [stepW]
  | succ i ih =>
    intro k payload prev w more mp hr hp hc hlen hsf hss
    have hhd : w.dataReads.head?.getD (some 0) = some 8192 := by rw [hr]; rfl
    have hpoll : (w.cancelled || w.polls.head?.getD false) = false := by rw [hc, hp]; rfl
    have hfuel : i + 1 + 1 + k = (i + 1 + k) + 1 := by omega
    rw [hfuel, recvLoop_step d _ payload prev w hhd (by omega) hsf hss, if_neg (by rw [hpoll]; simp)]
    have e : (i + 1 + 1) * 8192 = (i + 1) * 8192 + 8192 := Nat.succ_mul (i + 1) 8192
    have hlen' : (i + 1) * 8192 ≤ (payload.drop 8192).length := by
      have hd : (payload.drop 8192).length = payload.length - 8192 := List.length_drop
      rw [e] at hlen
      clear e ih
      generalize (i + 1) * 8192 = x at hlen ⊢
      omega
    obtain ⟨w', h1, h2, h3, h4, h5, h6⟩ := ih k (payload.drop 8192) false (stepW d payload w) more mp
      (by show w.dataReads.tail = _; rw [hr]; rfl) (by show w.polls.tail = _; rw [hp]; rfl) hpoll
      hlen' hsf hss
    refine ⟨w', h1, ?_, ?_, h4, h5, h6⟩
    · rw [h2]
      simp [stepW, blockEvs, List.replicate_succ, hpoll]
    · rw [h3]
      rw [e, Nat.add_comm ((i + 1) * 8192) 8192, List.take_add]
      simp [stepW]

/-- the events of a binary download into an audible sink that is cancelled at the poll after the j-th full block -/
def cancelEvs (d j : Nat) : List Ev :=
  .cbPoll false :: .cbBegin :: ((List.replicate (j - 1) (blockEvs d false)).flatten ++ blockEvs d true) ++
    [.sinkFlush, .cbEnd]

theorem dataRecv_cb_run (w : World) (h : (w.cancelled || w.polls.head?.getD false) = false) :
    dataRecv true .binary w =
      (recvLoop true .binary (DataL.dOf w) (w.dataReads.length + 1) (DataL.payloadOf w) false >>= fun x =>
        if x.2 then ((throwE : M Unit) >>= fun _ => streamFlush .binary x.1 >>= fun _ => emit .cbEnd)
        else streamFlush .binary x.1 >>= fun _ => emit .cbEnd)
      { pollW w with trace := (pollW w).trace ++ [.cbBegin] } := by
  unfold dataRecv
  msimp [poll_bind', h]
  rfl

theorem streamFlush_bin (p : Bool) (w : World) : streamFlush .binary p w =
    (.ok (), { w with sinkFlushes := w.sinkFlushes + 1,
                      trace := w.trace ++ (if w.sinkSilent then [] else [.sinkFlush]) }) := by
  unfold streamFlush
  msimp [DataL.sinkFlush_run]

theorem dataRecv_cancel (w : World) (payload : Bytes) (j : Nat) (more : List (Option Nat)) (mp : List Bool)
    (hj : 1 ≤ j) (hact : w.act = some (.send payload))
    (hreads : w.dataReads = List.replicate j (some 8192) ++ more)
    (hpolls : w.polls = List.replicate j false ++ true :: mp) (hnc : w.cancelled = false)
    (hlen : j * 8192 ≤ payload.length) (hsf : w.sinkFailAt = none) (hss : w.sinkSilent = false) :
    ∃ w2, dataRecv true .binary w = (.ok (), w2) ∧ w2.trace = w.trace ++ cancelEvs (DataL.dOf w) j ∧
      w2.sink = w.sink ++ payload.take (j * 8192) ∧ w2.cancelled = true := by
  obtain ⟨i, rfl⟩ : ∃ i, j = i + 1 := ⟨j - 1, by omega⟩
  have hpoll : (w.cancelled || w.polls.head?.getD false) = false := by rw [hnc, hpolls]; rfl
  have hpay : DataL.payloadOf w = payload := by simp [DataL.payloadOf, hact]
  have hfuel : w.dataReads.length + 1 = i + 1 + (more.length + 1) := by
    rw [hreads, List.length_append, List.length_replicate]; omega
  obtain ⟨w', h1, h2, h3, h4, h5, h6⟩ := recvLoop_cancel (DataL.dOf w) i (more.length + 1) payload false
    { pollW w with trace := (pollW w).trace ++ [.cbBegin] } more mp hreads
    (by show w.polls.tail = _; rw [hpolls]; rfl) hpoll hlen hsf hss
  rw [dataRecv_cb_run w hpoll, hpay, hfuel, DataL.bind_ok h1]
  msimp [DataL.bind_ok (streamFlush_bin false w')]
  refine ⟨_, rfl, ?_, ?_, h4⟩
  · show w'.trace ++ (if w'.sinkSilent = true then [] else [Ev.sinkFlush]) ++ [Ev.cbEnd] = _
    rw [h6, h2]
    simp [pollW, hpoll, cancelEvs]
  · show w'.sink = _
    rw [h3]
    simp [pollW]

/-! ### the events of a cancelled download -/

/-- callback invocations, graceful shutdowns and control writes -/
def loud : Ev → Bool
  | .cbPoll _ | .cbBegin | .cbNotify _ | .cbEnd | .dataShutdown _ | .ctlWrite _ => true
  | _ => false

theorem calm_list (l : List Ev) (h : ∀ e ∈ l, noisy e = false) :
    l.filter isCb = [] ∧ ∀ d, Ev.dataShutdown d ∉ l := by
  refine ⟨List.filter_eq_nil_iff.mpr fun e he => (Bool.not_eq_true _).mpr ?_, fun d hd => by cases h _ hd⟩
  cases e <;> first | rfl | cases h _ he

theorem still_list (l : List Ev) (h : ∀ e ∈ l, loud e = false) :
    l.filter isCb = [] ∧ writes l = [] ∧ ∀ d, Ev.dataShutdown d ∉ l := by
  have hn : ∀ e ∈ l, noisy e = false := by
    intro e he
    have := h e he
    cases e <;> first | rfl | simp [loud] at this
  refine ⟨(calm_list l hn).1, ?_, (calm_list l hn).2⟩
  apply writes_eq_nil
  intro e he b hb
  have := h e he
  subst hb
  simp [loud] at this

theorem replyEvs_still (obs : List Nat) (code : Nat) (text : Bytes) : ∀ e ∈ replyEvs obs code text, loud e = false := by
  intro e he
  have := replyEvs_quiet obs code text e he
  cases e <;> first | rfl | cases this

/-- what follows the ABOR line: its two replies and the hard close -/
def afterAbor (obs : List Nat) (d : Nat) (a : Option Nat) (a1 a2 : WfReply) : List Ev :=
  replyEvs obs a1.code a1.text ++ replyEvs obs a2.code a2.text ++ (.dataClose d :: a.toList.map Ev.dataClose)

theorem afterAbor_still (obs : List Nat) (d : Nat) (a : Option Nat) (a1 a2 : WfReply) :
    ∀ e ∈ afterAbor obs d a a1 a2, loud e = false := by
  intro e he
  simp only [afterAbor, List.mem_append, List.mem_cons, List.mem_map] at he
  rcases he with (he | he) | rfl | ⟨x, _, rfl⟩
  · exact replyEvs_still _ _ _ e he
  · exact replyEvs_still _ _ _ e he
  · rfl
  · rfl

/-- the events of the end of a cancelled transfer: the last poll, ABOR, its replies, the hard close -/
def abortEvs (obs : List Nat) (d : Nat) (a : Option Nat) (a1 a2 : WfReply) : List Ev :=
  (.cbPoll true :: obs.map (fun o => Ev.obsRequest o (str "ABOR"))) ++
    .ctlWrite (str "ABOR" ++ CRLF) :: afterAbor obs d a a1 a2

theorem cancelEvs_quiet (d j : Nat) : writes (cancelEvs d j) = [] ∧ ∀ x, Ev.dataShutdown x ∉ cancelEvs d j := by
  constructor
  · simp [cancelEvs, blockEvs, writes, List.filterMap_append, List.filterMap_flatten, List.map_replicate]
  · simp [cancelEvs, blockEvs, List.mem_flatten, List.mem_replicate]

theorem cancelEvs_cb (d j : Nat) : (cancelEvs d j).filter isCb =
    Ev.cbPoll false :: Ev.cbBegin :: ((List.replicate (j - 1) [Ev.cbNotify 8192, Ev.cbPoll false]).flatten ++
      [Ev.cbNotify 8192, Ev.cbPoll true, Ev.cbEnd]) := by
  simp [cancelEvs, blockEvs, List.filter_cons, List.filter_flatten, List.map_replicate, isCb]

theorem abortEvs_props (obs : List Nat) (d : Nat) (a : Option Nat) (a1 a2 : WfReply) :
    (abortEvs obs d a a1 a2).filter isCb = [Ev.cbPoll true] ∧
    writes (abortEvs obs d a a1 a2) = [str "ABOR" ++ CRLF] ∧ ∀ x, Ev.dataShutdown x ∉ abortEvs obs d a a1 a2 := by
  have hreq : ∀ e ∈ obs.map (fun o => Ev.obsRequest o (str "ABOR")), loud e = false := by
    intro e he
    obtain ⟨o, _, rfl⟩ := List.mem_map.mp he
    rfl
  obtain ⟨r1, r2, r3⟩ := still_list _ hreq
  obtain ⟨s1, s2, s3⟩ := still_list _ (afterAbor_still obs d a a1 a2)
  refine ⟨?_, ?_, ?_⟩
  · rw [abortEvs, List.filter_append, List.filter_cons, List.filter_cons, r1, s1]
    rfl
  · rw [abortEvs, writes_append]
    have e1 : writes (Ev.cbPoll true :: obs.map (fun o => Ev.obsRequest o (str "ABOR"))) = [] := by
      rw [← List.singleton_append, writes_append, r2]; rfl
    have e2 : writes (Ev.ctlWrite (str "ABOR" ++ CRLF) :: afterAbor obs d a a1 a2) = [str "ABOR" ++ CRLF] := by
      rw [← List.singleton_append, writes_append, s2]; rfl
    rw [e1, e2]; rfl
  · intro x
    simp only [abortEvs, List.mem_append, List.mem_cons, reduceCtorEq, false_or, not_or]
    exact ⟨r3 x, s3 x⟩

/-! ### the end of a cancelled transfer -/

/-- against a server that answers ABOR with 426 and a second reply: ABOR is sent, both replies are read, the data
    connection is closed without a shutdown -/
theorem abort_ok (rs : Replies) (w2 : World) (a1 a2 : WfReply) (rest : List SGroup) (d : Nat) (a : Option Nat)
    (hc : w2.connected = true) (hs : Sync w2 [])
    (hsc : w2.script = (⟨[a1, a2], none⟩ :: rest).map SGroup.enc) (ha1 : a1.wf) (ha2 : a2.wf) (h426 : a1.code = 426)
    (hconn : w2.conn = some { sock := some d, acc := a }) (hcl : ∀ b ∈ w2.closeFails, b = false)
    (hcan : w2.cancelled = true) :
    ∃ w3, finishTransfer true rs w2 = (.ok ((rs.append (replyOf a1)).append (replyOf a2)), w3) ∧ Sync w3 [] ∧
      (a2.code ≠ 421 → w3.connected = true) ∧ w3.conn = some { sock := none, acc := none } ∧ w3.sink = w2.sink ∧
      w3.trace = w2.trace ++ abortEvs w2.observers d a a1 a2 := by
  have hpoll : (w2.cancelled || w2.polls.head?.getD false) = true := by simp [hcan]
  obtain ⟨g1, g2, g3⟩ := ask_next (w := pollW w2) (str "ABOR") rs hc hs hsc ha1
    fun r hr => by rw [List.mem_singleton.mp hr]; exact ha2
  have hc3 : (askW (str "ABOR") (pollW w2) a1).connected = true := askW_connected _ _ a1 hc (by omega)
  obtain ⟨k1, k2⟩ := ctlRecv_got hc3 g2
  -- after the poll two turns of the control channel: the descriptors and the sink are read off their frame
  -- (`hconn`, `hcl` used as they are would be unfolded through the nested world functions, which is slow to check)
  have hst := CtlL.IsPre.trans ((processCommandInto_step _ rs).of_eq g1) (ctlRecv_own.of_eq k1).ctl
  have hcf : (gotW (askW (str "ABOR") (pollW w2) a1) a2.code a2.text).closeFails = w2.closeFails :=
    congrArg DescPart.closeFails hst.desc
  have hd := dataDisconnect_ok false _ d a ((congrArg DescPart.conn hst.desc).trans hconn) (by rw [hcf]; exact hcl)
  have h426' : ((replyOf a1).code == 426) = true := by simp [replyOf, h426]
  refine ⟨_, ?_, sync_of_dat (.of_desc ((dataDisconnect_own false).of_eq hd)) k2,
    fun h => gotW_connected _ a2.code a2.text hc3 h, rfl, congrArg XferPart.sink hst.xfer, ?_⟩
  · rw [finishTransfer_abort rs w2 hpoll hc]
    unfold abortReplies
    msimp [DataL.bind_ok (recvInto_run rs (processCommandInto_ok_iff.mp g1).2.1), h426',
      DataL.bind_ok (recvInto_run _ k1), DataL.bind_ok hd]
  · show (gotW (askW (str "ABOR") (pollW w2) a1) a2.code a2.text).trace ++ _ = _
    rw [gotW_trace, askW_trace]
    show w2.trace ++ [Ev.cbPoll (w2.cancelled || w2.polls.head?.getD false)] ++ turnEvs w2 _ _ _ ++
      replyEvs w2.observers _ _ ++ _ = _
    simp [hcan, abortEvs, afterAbor, replyEvs, turnEvs]

/-! ### the cancelled download, end to end -/

/-- `Ftp.Props.C12.cancelled_download_aborts` with the callback events spelled as `List.filter isCb` and the set-up
    condition unfolded -/
theorem cancelled_download_core (path : Bytes) (w : World) (s m a1 a2 : WfReply) (payload : Bytes) (j : Nat)
    (moreReads : List (Option Nat)) (morePolls : List Bool) (rest : List SGroup)
    (hstep : InStep w []) (hpath : hasCrLf path = false)
    (hs : s.wf) (hm : m.wf) (ha1 : a1.wf) (ha2 : a2.wf)
    (hacc : s.code < 400)
    (hpass : w.mode = .passive → w.connectOks.head? = some true ∧
      (if w.rfc then (parseEpsv s.text).isSome else (parsePasv s.text).isSome))
    (hv6 : w.mode = .active → w.rfc = false → w.v6 = false)
    (hmain : m.code < 400) (h426 : a1.code = 426)
    (hsc : w.script = (⟨[s], none⟩ :: ⟨[m], some (.send payload)⟩ :: ⟨[a1, a2], none⟩ :: rest).map SGroup.enc)
    (hclose : ∀ b ∈ w.closeFails, b = false)
    (hbin : w.ttype = .binary) (hj : 1 ≤ j) (hlen : j * 8192 ≤ payload.length)
    (hreads : w.dataReads = List.replicate j (some 8192) ++ moreReads)
    (hpolls : w.polls = List.replicate j false ++ true :: morePolls) (hnc : w.cancelled = false)
    (hsink : w.sinkFailAt = none) (hsil : w.sinkSilent = false) :
    ∃ rs, result (Op.download path true).run w = .ok (.replies rs) ∧
      rs.list = [replyOf s, replyOf m, replyOf a1, replyOf a2] ∧
      (after (Op.download path true).run w).sink = w.sink ++ payload.take (j * 8192) ∧
      (added (Op.download path true).run w).filter isCb =
        Ev.cbPoll false :: Ev.cbBegin :: ((List.replicate (j - 1) [Ev.cbNotify 8192, Ev.cbPoll false]).flatten ++
          [Ev.cbNotify 8192, Ev.cbPoll true, Ev.cbEnd, Ev.cbPoll true]) ∧
      (writes (added (Op.download path true).run w)).getLast? = some (str "ABOR\r\n") ∧
      (∀ d, Ev.dataShutdown d ∉ added (Op.download path true).run w) ∧
      (after (Op.download path true).run w).conn = none ∧
      (a2.code ≠ 421 → InStep (after (Op.download path true).run w) []) := by
  -- the set-up: a ready data connection; the user's objects and the callback's state untouched
  obtain ⟨w1, d, a, hcdc, r1⟩ := cdc_accepted (str "RETR" ++ [SP] ++ path) Replies.empty w s m [] (some (.send payload))
    (⟨[a1, a2], none⟩ :: rest) hstep hs hm (fun _ h => by cases h) hacc hmain hpass hv6 hsc
  obtain ⟨u1, u2, _, u4, u5, u6, _⟩ := Rusr.of_setup r1.step.setup
  have hx1 : xferPart w1 = xferPart w := congrArg (·.2) r1.step.1
  obtain ⟨l1, t1, q1⟩ := r1.step.2
  -- the loop until the callback reports cancellation
  obtain ⟨w2, hmv, t2, k2, hcan2⟩ := dataRecv_cancel w1 payload j moreReads morePolls hj (r1.act _ rfl)
    (u6.trans hreads) ((congrArg XferPart.polls hx1).trans hpolls) ((congrArg XferPart.cancelled hx1).trans hnc) hlen
    (u4.trans hsink) (u5.trans hsil)
  have hdat := Rdat.of_move ((dataRecv_own _ _).of_eq hmv)
  have hcf := Rcf.of_move ((dataRecv_own _ _).of_eq hmv)
  -- ABOR, its two replies, the hard close; the scope exit
  obtain ⟨w3, hfin, hsy, hc3, hconn3, k3, t3⟩ := abort_ok _ w2 a1 a2 rest d a (hdat.connected.trans r1.connected)
    (sync_of_dat hdat r1.sync) (hdat.script.trans r1.script) ha1 ha2 h426 (hcf.1.trans r1.conn)
    (by rw [hcf.2, r1.closeFails]; exact hclose) hcan2
  have hdl := xfer_ready "RETR" (some path) (moveBody true (dataRecv true)) id w w1 w3 _ _ _
    (CtlL.mkCmd_succ _ _ _ hpath) hcdc (moveBody_ok true (dataRecv true) _ _ w1 w2 w3 (by rw [u1.trans hbin]; exact hmv) hfin)
  rw [destroyW_done w3 hconn3] at hdl
  have hop : (Op.download path true).run w =
      (.ok (.replies ((((Replies.empty.append (replyOf s)).append (replyOf m)).append (replyOf a1)).append (replyOf a2))),
        { w3 with conn := none }) := by
    simp only [Op.run, download_eq]
    rw [DataL.bind_ok hdl]
    rfl
  have hadd : added (Op.download path true).run w =
      l1 ++ (cancelEvs (DataL.dOf w1) j ++ abortEvs w2.observers d a a1 a2) := by
    apply DataL.added_of_trace
    simp only [after, hop]
    rw [t3, t2, t1]
    simp only [List.append_assoc]
  obtain ⟨b1, b2⟩ := calm_list l1 fun e he => ready_calm e (q1 e he)
  obtain ⟨e1, e2⟩ := cancelEvs_quiet (DataL.dOf w1) j
  obtain ⟨f1, f2, f3⟩ := abortEvs_props w2.observers d a a1 a2
  refine ⟨(((Replies.empty.append (replyOf s)).append (replyOf m)).append (replyOf a1)).append (replyOf a2),
    by simp only [result, hop], ?_, ?_, ?_, ?_, ?_, ?_, ?_⟩
  · simp [Replies.empty]
  · simp only [after, hop]
    rw [k3, k2, u2]
  · rw [hadd, List.filter_append, List.filter_append, b1, cancelEvs_cb, f1]
    simp
  · rw [hadd, writes_append, writes_append, e1, f2]
    simp only [List.nil_append]
    rw [List.getLast?_append]
    rfl
  · intro x hx
    rw [hadd] at hx
    rcases List.mem_append.mp hx with hx | hx
    · exact b2 x hx
    · rcases List.mem_append.mp hx with hx | hx
      · exact e2 x hx
      · exact f3 x hx
  · simp only [after, hop]
  · intro h421
    simp only [after, hop]
    exact ⟨hc3 h421, hsy⟩

end Ftp.Client.CancelL
