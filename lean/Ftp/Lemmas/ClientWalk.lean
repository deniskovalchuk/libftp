import Ftp.Lemmas.Endpoint
import Ftp.Lemmas.ClientLogic
/-
  What every program of `Ftp.Client` keeps, proved by walking each program once.

  The state of the model has four concerns besides the trace - the control channel, the settings of the session, the
  descriptor bookkeeping of the data connection, the user objects and oracles of a transfer - and every primitive
  program belongs to one of them: it changes that part of the world only and adds only events of its own class.
  `Own π P` says so; each primitive program has one lemma `*_own` with the strongest such relation, and whatever else
  a proof needs to know about what a primitive leaves alone is a projection of it.

  The composite programs are walked once, for an arbitrary invariant `I`, from records of what `I` tolerates of the
  primitive programs (`PrimsC` control channel, `PrimsD` descriptors, `PrimsX` transfer loops, `Prims` all of them);
  a relation fills its records from what it tolerates of the kinds of step (`primsC_of` .. `prims_of`,
  `run_of_steps`).  What a command line is known to satisfy before it is written travels with the walk (`Q`).
-/
namespace Ftp.Client.CtlL
open Ftp.Endpoint

theorem typeCommand_clean (t : TType) : hasCrLf (typeCommand t) = false := by cases t <;> decide

theorem addrText_cases (w : World) : addrText w = str "::1" ∨ addrText w = str "127.0.0.1" := by
  unfold addrText; split <;> simp

/-- the address the client announces, also with its dots turned into commas (PORT), is free of CR and LF -/
theorem addrText_clean (w : World) : hasCrLf (addrText w) = false ∧
    hasCrLf ((addrText w).map fun ch => if ch = 46 then 44 else ch) = false := by
  rcases addrText_cases w with h | h <;> (rw [h]; decide)

/-- the argument checks `connect` makes before it touches the connection -/
def connectCheck (cred : Option (Bytes × Bytes)) : M Unit :=
  match cred with
  | some (u, p) => do let _ ← mkCmd "USER" (some u); let _ ← mkCmd "PASS" (some p); pure ()
  | none => pure ()

end Ftp.Client.CtlL

namespace Ftp.Client.TraceL

/-- the first steps of `client::connect`: the TCP connect and its announcement -/
def connectOpen (host : Bytes) (port : Nat) : M Unit := do
  modifyW fun w =>
    let g : Group := match w.script with
      | g :: _ => g
      | [] => { raws := [] }
    { w with ctl := {}, connected := true, script := w.script.tail,
             net := { w.net with stream := g.raws.flatten } }
  emit (.ctlConnect host port)
  forObservers (fun o => .obsConnected o host port)

/-- `client::connect` on a client that is still connected: the open control connection is closed first -/
def connectDrop : M Unit := do
  emit .ctlClose
  modifyW fun w => { w with connected := false }

/-- the completed listing and its announcement -/
def listingNotify (t : Bytes) : M Unit := do
  emit (.listing t)
  forObservers (fun o => .obsFileList o t)

end Ftp.Client.TraceL

namespace Ftp.Client.Walk
open Ftp.Session Ftp.Endpoint Ftp.Client.TraceL
open Ftp.Client.CtlL (IsPre connectCheck)

/-- the control channel as the client and the scripted server see it -/
structure CtlPart where
  ctl : Reader.Ctl
  net : Reader.Net
  script : List Group
  act : Option DataAct
  connected : Bool

structure CfgPart where
  mode : TMode
  ttype : TType
  rfc : Bool
  observers : List Nat
  v6 : Bool

/-- the `data_connection` object, the descriptor counter and the oracles of the descriptor operations -/
structure DescPart where
  nextD : Nat
  conn : Option DataConn
  connectOks : List Bool
  listenPorts : List Nat
  closeFails : List Bool

/-- the user objects of a transfer and the oracles of the data channel -/
structure XferPart where
  dataReads : List (Option Nat)
  blockOks : List Bool
  sinkFailAt : Option Nat
  sinkWrites : Nat
  sink : Bytes
  sinkFlushes : Nat
  sinkSilent : Bool
  src : Ascii.Src
  srcFailAt : Option Nat
  srcReads : Nat
  polls : List Bool
  cancelled : Bool
  peerGot : Bytes

def ctlPart (w : World) : CtlPart := ⟨w.ctl, w.net, w.script, w.act, w.connected⟩
def cfgPart (w : World) : CfgPart := ⟨w.mode, w.ttype, w.rfc, w.observers, w.v6⟩
def descPart (w : World) : DescPart := ⟨w.nextD, w.conn, w.connectOks, w.listenPorts, w.closeFails⟩
def xferPart (w : World) : XferPart :=
  ⟨w.dataReads, w.blockOks, w.sinkFailAt, w.sinkWrites, w.sink, w.sinkFlushes, w.sinkSilent, w.src, w.srcFailAt,
    w.srcReads, w.polls, w.cancelled, w.peerGot⟩

/-- events of the control channel and what the observers are told about it -/
def isCtl : Ev → Bool
  | .ctlConnect _ _ | .ctlShutdown | .ctlClose | .ctlReply _ _ | .ctlWrite _ | .ctlWriteFail _ | .ctlReadLine
  | .obsConnected _ _ _ | .obsRequest _ _ | .obsReply _ _ _ => true
  | _ => false

def isQuietEv : Ev → Bool
  | .ctlWrite _ => false
  | e => isCtl e

def isDescEv : Ev → Bool
  | .dataSocket _ | .dataConnect _ _ _ _ | .dataBind _ _ _ _ | .dataListen _ | .dataAccept _ _ | .dataShutdown _
  | .dataClose _ => true
  | _ => false

def isMoveEv : Ev → Bool
  | .dataRead _ _ | .dataReadErr _ | .dataWrite _ _ | .dataWriteErr _ | .sinkWrite _ | .sinkWriteFail | .sinkFlush
  | .srcRead _ _ | .srcFail | .cbPoll _ | .cbBegin | .cbNotify _ | .cbEnd => true
  | _ => false

def isListEv : Ev → Bool
  | .listing _ | .obsFileList _ _ => true
  | _ => false

/-- what `π` sees of the world is left alone, and the events added all satisfy `P` -/
def Own {σ : Type} (π : World → σ) (P : Ev → Prop) (w w' : World) : Prop :=
  π w' = π w ∧ ∃ evs, w'.trace = w.trace ++ evs ∧ ∀ e ∈ evs, P e

instance {σ : Type} (π : World → σ) (P : Ev → Prop) : IsPre (Own π P) where
  refl w := ⟨rfl, [], by simp, by simp⟩
  trans := by
    rintro a b c ⟨a1, e1, t1, p1⟩ ⟨b1, e2, t2, p2⟩
    exact ⟨b1.trans a1, e1 ++ e2, by rw [t2, t1, List.append_assoc], List.forall_mem_append.mpr ⟨p1, p2⟩⟩

abbrev CtlStep := Own (fun w => (cfgPart w, descPart w, xferPart w)) (isCtl · = true)
abbrev QuietStep := Own (fun w => (cfgPart w, descPart w, xferPart w)) (isQuietEv · = true)
abbrev DescStep := Own (fun w => (ctlPart w, cfgPart w, xferPart w)) (isDescEv · = true)
abbrev MoveStep := Own (fun w => (ctlPart w, cfgPart w, descPart w)) (isMoveEv · = true)
/-- a step of the set-up of a data connection: of the control channel or on the `data_connection` object -/
abbrev SetupStep := Own (fun w => (cfgPart w, xferPart w)) (fun e => isCtl e = true ∨ isDescEv e = true)
/-- the announcement of a listing: nothing but the trace changes -/
abbrev ListStep := Own (fun w => (ctlPart w, cfgPart w, descPart w, xferPart w)) (isListEv · = true)

namespace Own
variable {σ : Type} {π : World → σ} {P : Ev → Prop}

theorem modifyW {f : World → World} (h : ∀ w, π (f w) = π w ∧ (f w).trace = w.trace) :
    CtlL.Keeps (Own π P) (Client.modifyW f) :=
  fun w => ⟨(h w).1, [], by simp [Client.modifyW, (h w).2], by simp⟩

theorem emit {e : Ev} (hπ : ∀ w l, π { w with trace := l } = π w) (h : P e) : CtlL.Keeps (Own π P) (Client.emit e) :=
  fun w => ⟨hπ w _, [e], rfl, by simpa using h⟩

theorem forObservers {f : Nat → Ev} (hπ : ∀ w l, π { w with trace := l } = π w) (h : ∀ o, P (f o)) :
    CtlL.Keeps (Own π P) (Client.forObservers f) := by
  intro w
  refine ⟨hπ w _, w.observers.map f, rfl, ?_⟩
  intro e he
  obtain ⟨o, _, rfl⟩ := List.mem_map.mp he
  exact h o

variable {α β : Type}

/- the structural rules of `CtlL.Keeps`, without the instance argument: the walk applies them at every node -/
theorem pure (a : α) : CtlL.Keeps (Own π P) (Pure.pure a : M α) := CtlL.Keeps.pure a
theorem throwE : CtlL.Keeps (Own π P) (Client.throwE : M α) := CtlL.Keeps.throwE
theorem getW : CtlL.Keeps (Own π P) Client.getW := CtlL.Keeps.getW
theorem bind {m : M α} {f : α → M β} (hm : CtlL.Keeps (Own π P) m) (hf : ∀ a, CtlL.Keeps (Own π P) (f a)) :
    CtlL.Keeps (Own π P) (m >>= f) := CtlL.Keeps.bind hm hf
theorem ite {c : Prop} [Decidable c] {a b : M α} (ha : CtlL.Keeps (Own π P) a) (hb : CtlL.Keeps (Own π P) b) :
    CtlL.Keeps (Own π P) (if c then a else b) := CtlL.Keeps.ite ha hb

theorem mono {τ : Type} {ρ : World → τ} {P' : Ev → Prop} (hπ : ∀ w w', π w' = π w → ρ w' = ρ w)
    (hp : ∀ e, P e → P' e) {w w' : World} (h : Own π P w w') : Own ρ P' w w' :=
  ⟨hπ _ _ h.1, h.2.imp fun _ hx => ⟨hx.1, fun e he => hp e (hx.2 e he)⟩⟩

theorem keeps_mono {α τ : Type} {ρ : World → τ} {P' : Ev → Prop} {m : M α} (k : CtlL.Keeps (Own π P) m)
    (hπ : ∀ w w', π w' = π w → ρ w' = ρ w) (hp : ∀ e, P e → P' e) : CtlL.Keeps (Own ρ P') m :=
  fun w => (k w).mono hπ hp

end Own

section parts
variable {w w' : World}
theorem CtlStep.cfg (h : CtlStep w w') : cfgPart w' = cfgPart w := congrArg (·.1) h.1
theorem CtlStep.desc (h : CtlStep w w') : descPart w' = descPart w := congrArg (·.2.1) h.1
theorem CtlStep.xfer (h : CtlStep w w') : xferPart w' = xferPart w := congrArg (·.2.2) h.1
theorem DescStep.ctl (h : DescStep w w') : ctlPart w' = ctlPart w := congrArg (·.1) h.1
theorem DescStep.cfg (h : DescStep w w') : cfgPart w' = cfgPart w := congrArg (·.2.1) h.1
theorem DescStep.xfer (h : DescStep w w') : xferPart w' = xferPart w := congrArg (·.2.2) h.1
theorem MoveStep.desc (h : MoveStep w w') : descPart w' = descPart w := congrArg (·.2.2) h.1
theorem CtlStep.ttype (h : CtlStep w w') : w'.ttype = w.ttype := congrArg CfgPart.ttype h.cfg
theorem CtlStep.cancelled (h : CtlStep w w') : w'.cancelled = w.cancelled := congrArg XferPart.cancelled h.xfer
theorem DescStep.cancelled (h : DescStep w w') : w'.cancelled = w.cancelled := congrArg XferPart.cancelled h.xfer
end parts

theorem QuietStep.ctl {w w' : World} (h : QuietStep w w') : CtlStep w w' :=
  h.mono (fun _ _ h => h) fun e he => by cases e <;> first | rfl | cases he

def withDesc (w' w : World) : World :=
  { w with nextD := w'.nextD, conn := w'.conn, connectOks := w'.connectOks, listenPorts := w'.listenPorts,
           closeFails := w'.closeFails }

def withXfer (w' w : World) : World :=
  { w with dataReads := w'.dataReads, blockOks := w'.blockOks, sinkFailAt := w'.sinkFailAt,
           sinkWrites := w'.sinkWrites, sink := w'.sink, sinkFlushes := w'.sinkFlushes, sinkSilent := w'.sinkSilent,
           src := w'.src, srcFailAt := w'.srcFailAt, srcReads := w'.srcReads, polls := w'.polls,
           cancelled := w'.cancelled, peerGot := w'.peerGot }

/-- A step that owns one part is a change of that part followed by its events: this is how an invariant given by
    classes of `modifyW f` and of events (`TraceL.AtomsA`, `AtomsD`) tolerates a whole step. -/
theorem DescStep.eq {w w' : World} (h : DescStep w w') :
    ∃ evs, (∀ e ∈ evs, isDescEv e = true) ∧ w' = { withDesc w' w with trace := w.trace ++ evs } := by
  obtain ⟨hπ, evs, ht, hev⟩ := h
  refine ⟨evs, hev, ?_⟩
  cases w; cases w'; cases hπ; cases ht; rfl

theorem MoveStep.eq {w w' : World} (h : MoveStep w w') :
    ∃ evs, (∀ e ∈ evs, isMoveEv e = true) ∧ w' = { withXfer w' w with trace := w.trace ++ evs } := by
  obtain ⟨hπ, evs, ht, hev⟩ := h
  refine ⟨evs, hev, ?_⟩
  cases w; cases w'; cases hπ; cases ht; rfl

/-- one node of an unfolded `do` block: the rule of `CtlL.Keeps` for its syntactic form (the rules are
    syntax-directed, nothing is searched for), or an atomic step that changes nothing `π` sees and emits an event of
    the class.  `with_reducible`: a rule that does not fit must not unfold the program to find out; and a rule with
    side proofs is matched first (`refine .. ?_`), since `exact` elaborates the proofs before it sees the mismatch. -/
macro "own_step" : tactic => `(tactic| first
  | with_reducible refine Own.bind ?_ (fun _ => ?_)
  | with_reducible exact Own.pure _
  | with_reducible exact Own.throwE
  | with_reducible exact Own.getW
  | with_reducible apply Own.ite
  | ((with_reducible refine Own.modifyW ?_); exact fun _ => ⟨rfl, rfl⟩)
  | ((with_reducible refine Own.emit ?_ ?_); exact fun _ _ => rfl; exact rfl)
  | ((with_reducible refine Own.forObservers ?_ ?_); exact fun _ _ => rfl; exact fun _ => rfl)
  | split)

/-- follow the syntax of a program down to its leaves; a leaf is an atomic step or a sub-program with its lemma among
    `ts` - so a call names exactly the sub-programs the program is made of -/
syntax "own_walk" "[" term,* "]" : tactic
macro_rules | `(tactic| own_walk [$ts,*]) => `(tactic| repeat' (first $[| with_reducible exact $ts]* | own_step))

theorem ctlClose_own : CtlL.Keeps QuietStep ctlClose := by unfold ctlClose; own_walk []
theorem ctlSend_own (c : Bytes) : CtlL.Keeps CtlStep (ctlSend c) := by unfold ctlSend; own_walk []
theorem ctlRecv_own : CtlL.Keeps QuietStep ctlRecv := by unfold ctlRecv; own_walk [ctlClose_own]
theorem recvInto_own (rs : Replies) : CtlL.Keeps QuietStep (recvInto rs) := by unfold recvInto; own_walk [ctlRecv_own]
theorem connectDrop_own : CtlL.Keeps QuietStep connectDrop := by unfold connectDrop; own_walk []
theorem connectOpen_own (h : Bytes) (p : Nat) : CtlL.Keeps QuietStep (connectOpen h p) := by
  unfold connectOpen; own_walk []

theorem listingNotify_own (t : Bytes) : CtlL.Keeps ListStep (listingNotify t) := by
  unfold listingNotify; own_walk []

theorem closeD_own (d : Nat) : CtlL.Keeps DescStep (closeD d) := by unfold closeD; own_walk []
theorem newDescriptor_own : CtlL.Keeps DescStep newDescriptor := by unfold newDescriptor; own_walk []
theorem destroyConn_own : CtlL.Keeps DescStep destroyConn := by unfold destroyConn; own_walk [closeD_own _]
theorem dataDisconnect_own (g : Bool) : CtlL.Keeps DescStep (dataDisconnect g) := by
  unfold dataDisconnect; own_walk [closeD_own _]
theorem dataConnect_own (a : Bytes) (p : Nat) : CtlL.Keeps DescStep (dataConnect a p) := by
  unfold dataConnect; own_walk [newDescriptor_own, closeD_own _]
theorem dataListen_own : CtlL.Keeps DescStep dataListen := by unfold dataListen; own_walk [newDescriptor_own]
theorem dataAccept_own : CtlL.Keeps DescStep dataAccept := by unfold dataAccept; own_walk []

theorem poll_own : CtlL.Keeps MoveStep poll := by unfold poll; own_walk []
theorem sinkWrite_own (bs : Bytes) : CtlL.Keeps MoveStep (sinkWrite bs) := by unfold sinkWrite; own_walk []
theorem sinkFlush_own : CtlL.Keeps MoveStep sinkFlush := by unfold sinkFlush; own_walk []
theorem streamWrite_own (t : TType) (prev : Bool) (b : Bytes) : CtlL.Keeps MoveStep (streamWrite t prev b) := by
  unfold streamWrite; own_walk [sinkWrite_own _]
theorem streamFlush_own (t : TType) (prev : Bool) : CtlL.Keeps MoveStep (streamFlush t prev) := by
  unfold streamFlush; own_walk [sinkWrite_own _, sinkFlush_own]
theorem srcRead_own (n : Nat) : CtlL.Keeps MoveStep (srcRead n) := by unfold srcRead; own_walk []
theorem dataWrite_own (d : Nat) (b : Bytes) : CtlL.Keeps MoveStep (dataWrite d b) := by unfold dataWrite; own_walk []

theorem recvLoop_own (cb : Bool) (t : TType) (d : Nat) :
    ∀ (fuel : Nat) (payload : Bytes) (prev : Bool), CtlL.Keeps MoveStep (recvLoop cb t d fuel payload prev)
  | 0, _, _ => by unfold recvLoop; own_walk []
  | fuel + 1, _, _ => by
    unfold recvLoop; own_walk [recvLoop_own cb t d fuel _ _, streamWrite_own _ _ _, poll_own]

theorem dataRecv_own (cb : Bool) (t : TType) : CtlL.Keeps MoveStep (dataRecv cb t) := by
  unfold dataRecv; own_walk [recvLoop_own _ _ _ _ _ _, streamFlush_own _ _, poll_own]

theorem sendLoopBin_own (cb : Bool) (d : Nat) : ∀ fuel : Nat, CtlL.Keeps MoveStep (sendLoopBin cb d fuel)
  | 0 => by unfold sendLoopBin; own_walk []
  | fuel + 1 => by unfold sendLoopBin; own_walk [sendLoopBin_own cb d fuel, srcRead_own _, dataWrite_own _ _, poll_own]

theorem sendLoopAscii_own (cb : Bool) (d : Nat) :
    ∀ (fuel : Nat) (st : Ascii.IState), CtlL.Keeps MoveStep (sendLoopAscii cb d fuel st)
  | 0, _ => by unfold sendLoopAscii; own_walk []
  | fuel + 1, _ => by unfold sendLoopAscii; own_walk [sendLoopAscii_own cb d fuel _, dataWrite_own _ _, poll_own]

theorem dataSend_own (cb : Bool) (t : TType) : CtlL.Keeps MoveStep (dataSend cb t) := by
  unfold dataSend; own_walk [sendLoopBin_own _ _ _, sendLoopAscii_own _ _ _ _, poll_own]

/-- `I` survives the steps of the control channel.  `Q` is what `I` has to know of a command line before it is
    written; every line without a line break has it. -/
structure PrimsC (I : World → Prop) (Q : Bytes → Prop) : Prop where
  cmd : ∀ c, hasCrLf c = false → Q c
  send : ∀ c, Q c → Keeps I (ctlSend c)
  recv : Keeps I ctlRecv

structure PrimsD (I : World → Prop) : Prop where
  dconn : ∀ a p, Keeps I (dataConnect a p)
  dlisten : Keeps I dataListen
  daccept : Keeps I dataAccept
  ddisc : ∀ g, Keeps I (dataDisconnect g)
  destroy : Keeps I destroyConn

structure PrimsX (I : World → Prop) : Prop where
  drecv : ∀ cb t, Keeps I (dataRecv cb t)
  dsend : ∀ cb t, Keeps I (dataSend cb t)
  poll : Keeps I poll
  silence : Keeps I (modifyW fun w => { w with sinkSilent := true, sink := [], sinkFailAt := none })

/-- `I` survives every primitive step but those of a new connection and a new transfer type -/
structure Prims (I : World → Prop) (Q : Bytes → Prop) : Prop extends PrimsC I Q, PrimsD I, PrimsX I where
  close : Keeps I ctlClose
  listing : ∀ t, Keeps I (listingNotify t)

/-- a verb is harmless: it is free of line breaks, or `Q` does not care -/
def VerbOk (Q : Bytes → Prop) (v : String) : Prop := (∀ b, Q b) ∨ hasCrLf (str v) = false

def OpVerbOk (Q : Bytes → Prop) : Op → Prop
  | .simple v _ => VerbOk Q v
  | .upload v _ _ => VerbOk Q v
  | _ => True

variable {I : World → Prop} {Q : Bytes → Prop}

theorem keeps_mkCmd_bind {β} (C : PrimsC I Q) {v : String} (hv : VerbOk Q v) (a : Option Bytes) {f : Bytes → M β}
    (hf : ∀ c, Q c → Keeps I (f c)) : Keeps I (mkCmd v a >>= f) := by
  refine ⟨fun w hw => ?_⟩
  unfold mkCmd
  cases hm : makeCommand (str v) a with
  | none => exact hw
  | some c =>
    refine (hf c ?_).h w hw
    rcases hv with hv | hv
    · exact hv _
    · exact C.cmd _ (makeCommand_clean hv hm)

theorem keeps_mkCmd (v : String) (a : Option Bytes) : Keeps I (mkCmd v a) := by
  unfold mkCmd; split <;> first | exact keeps_pure _ | exact keeps_throw

theorem PrimsC.typeCmd (C : PrimsC I Q) (t : TType) : Q (typeCommand t) := C.cmd _ (CtlL.typeCommand_clean t)

theorem keeps_pure_bind {α β} {a : α} {f : α → M β} (h : Keeps I (f a)) : Keeps I (pure a >>= f) := h
theorem keeps_throw_bind {α β} (f : α → M β) : Keeps I (throwE >>= f) := ⟨fun _ h => h⟩
theorem keeps_map {α β} {m : M α} (f : α → β) (h : Keeps I m) : Keeps I (do let r ← m; pure (f r)) :=
  keeps_bind h fun _ => keeps_pure _

/-- one node of an unfolded `do` block, for `TraceL.Keeps`.  The `_bind` rules come first so that a value which reaches
    a command line through `pure`, `if` or `mkCmd` stays known where the line is written (`Q`). -/
macro "walk_step" : tactic => `(tactic| first
  | (with_reducible refine keeps_mkCmd_bind ‹_› ?_ _ fun _ _ => ?_)
  | with_reducible apply keeps_pure_bind
  | with_reducible exact keeps_throw_bind _
  | with_reducible refine keeps_bind ?_ fun _ => ?_
  | with_reducible exact keeps_pure _ | with_reducible exact keeps_throw | with_reducible exact keeps_getW
  | assumption
  | exact .inr (by decide)
  | with_reducible apply keeps_withScope
  | with_reducible apply keeps_ite
  | intro _
  | split)

syntax "walk" "[" term,* "]" : tactic
macro_rules | `(tactic| walk [$ts,*]) => `(tactic| repeat' (first $[| with_reducible refine $ts]* | walk_step))

section
variable (C : PrimsC I Q)
include C

theorem keeps_recvInto (rs : Replies) : Keeps I (recvInto rs) := by
  unfold recvInto; walk [C.recv]

theorem keeps_processCommand {c : Bytes} (hc : Q c) : Keeps I (processCommand c) := by
  unfold processCommand; walk [C.send c hc, C.recv]

theorem keeps_processCommandInto {c : Bytes} (hc : Q c) (rs : Replies) : Keeps I (processCommandInto c rs) := by
  unfold processCommandInto; walk [C.send c hc, keeps_recvInto C _]

theorem keeps_simple {v : String} (hv : VerbOk Q v) (a : Option Bytes) : Keeps I (simple v a) := by
  unfold simple; walk [keeps_processCommand C ‹_›]

theorem keeps_logout : Keeps I logout := keeps_simple C (.inr (by decide)) _

theorem keeps_processLogin (u p : Bytes) (rs : Replies) : Keeps I (processLogin u p rs) := by
  unfold processLogin; walk [keeps_processCommandInto C ‹_› _, keeps_processCommandInto C (C.typeCmd _) _]

theorem keeps_login (u p : Bytes) : Keeps I (login u p) := by
  unfold login; walk [keeps_processLogin C _ _ _]

theorem keeps_rename (a b : Bytes) : Keeps I (rename a b) := by
  unfold rename; walk [keeps_processCommandInto C ‹_› _]

theorem keeps_processAbort (rs : Replies) : Keeps I (processAbort rs) := by
  unfold processAbort; walk [keeps_processCommandInto C ‹_› _, keeps_recvInto C _]

theorem keeps_setTransferType (t : TType) (ht : Keeps I (modifyW fun w => { w with ttype := t })) :
    Keeps I (setTransferType t) := by
  unfold setTransferType; walk [keeps_processCommand C (C.typeCmd _), ht]

theorem keeps_disconnect (hclose : Keeps I ctlClose) (g : Bool) : Keeps I (disconnect g) := by
  unfold disconnect; walk [keeps_processCommand C ‹_›, hclose]

omit C in
theorem connect_blocks (h : Bytes) (p : Nat) (cred : Option (Bytes × Bytes)) :
    connect h p cred = (do
      connectCheck cred
      let w0 ← getW
      if w0.connected then connectDrop
      connectOpen h p
      let (r, rs) ← recvInto Replies.empty
      let (r, rs) ← if r.code == 120 then recvInto rs else pure (r, rs)
      if r.isNegative then pure rs
      else
        match cred with
        | some (u, p) => do let (_, rs) ← processLogin u p rs; pure rs
        | none => pure rs) := by
  rcases cred with _ | ⟨u, pw⟩
  · rfl
  · funext w
    unfold connect connectCheck
    dsimp only
    unfold mkCmd
    cases makeCommand (str "USER") (some u) <;> cases makeCommand (str "PASS") (some pw) <;> rfl

theorem keeps_connect (hdrop : Keeps I connectDrop) (hopen : ∀ h p, Keeps I (connectOpen h p)) (h : Bytes) (p : Nat)
    (cred : Option (Bytes × Bytes)) : Keeps I (connect h p cred) := by
  rw [connect_blocks]; unfold connectCheck
  walk [keeps_recvInto C _, keeps_processLogin C _ _ _, hdrop, hopen _ _]

variable (D : PrimsD I)
include D

theorem keeps_processEpsv {c : Bytes} (hc : Q c) (rs : Replies) : Keeps I (processEpsv c rs) := by
  unfold processEpsv; walk [keeps_processCommandInto C ‹_› _, D.dconn _ _, D.ddisc _]

theorem keeps_processPasv {c : Bytes} (hc : Q c) (rs : Replies) : Keeps I (processPasv c rs) := by
  unfold processPasv; walk [keeps_processCommandInto C ‹_› _, D.dconn _ _, D.ddisc _]

theorem keeps_processActive (e : Bool) {c : Bytes} (hc : Q c) (rs : Replies) : Keeps I (processActive e c rs) := by
  unfold processActive
  walk [keeps_processCommandInto C ‹_› _, D.dlisten, D.daccept,
    keeps_processCommandInto C (C.cmd _ (fmtEprt_clean _ _ (CtlL.addrText_clean _).1)) _,
    keeps_processCommandInto C (C.cmd _ (fmtPort_clean (CtlL.addrText_clean _).2 ‹_›)) _]

theorem keeps_createDataConnection {c : Bytes} (hc : Q c) (rs : Replies) : Keeps I (createDataConnection c rs) := by
  unfold createDataConnection
  walk [keeps_processEpsv C D hc _, keeps_processPasv C D hc _, keeps_processActive C D _ hc _]

end

/-- every API call, for an invariant that tolerates the steps of the control channel: the calls that need more of
    it - a new connection, a new transfer type, the three transfers - are hypotheses -/
theorem keeps_runC (C : PrimsC I Q) (hclose : Keeps I ctlClose) : (op : Op) → OpVerbOk Q op →
    (∀ h p c, op = .connect h p c → Keeps I (connect h p c)) →
    (∀ t, op = .setType t → Keeps I (setTransferType t)) →
    (∀ p cb, op = .download p cb → Keeps I (download p cb)) →
    (∀ v p cb, op = .upload v p cb → Keeps I (upload v p cb)) →
    (∀ p n, op = .list p n → Keeps I (fileList p n)) → Keeps I op.run
  | .connect .., _, hc, _, _, _, _ => keeps_map _ (hc _ _ _ rfl)
  | .login .., _, _, _, _, _, _ => keeps_map _ (keeps_login C _ _)
  | .logout, _, _, _, _, _, _ => keeps_map _ (keeps_logout C)
  | .simple .., hv, _, _, _, _, _ => keeps_map _ (keeps_simple C hv _)
  | .setType _, _, _, ht, _, _, _ => keeps_map _ (ht _ rfl)
  | .rename .., _, _, _, _, _, _ => keeps_map _ (keeps_rename C _ _)
  | .download .., _, _, _, hd, _, _ => keeps_map _ (hd _ _ rfl)
  | .upload .., _, _, _, _, hu, _ => keeps_map _ (hu _ _ _ rfl)
  | .list .., _, _, _, _, _, hl => keeps_map (fun r : Replies × Bytes => Out.listing r.1 r.2) (hl _ _ rfl)
  | .disconnect _, _, _, _, _, _, _ => keeps_map _ (keeps_disconnect C hclose _)

theorem keeps_finishTransfer (C : PrimsC I Q) (hd : ∀ g, Keeps I (dataDisconnect g)) (hp : Keeps I poll) (cb : Bool)
    (rs : Replies) : Keeps I (finishTransfer cb rs) := by
  unfold finishTransfer; walk [keeps_processAbort C _, keeps_recvInto C _, hd _, hp]

theorem fileList_blocks (path : Option Bytes) (names : Bool) :
    fileList path names = withScope (do
      let c ← mkCmd (if names then "NLST" else "LIST") path
      let (ready, rs) ← createDataConnection c Replies.empty
      if ready then
        let w ← getW
        modifyW fun w => { w with sinkSilent := true, sink := [], sinkFailAt := none }
        dataRecv false w.ttype
        let w ← getW
        listingNotify w.sink
        dataDisconnect true
        let (_, rs) ← recvInto rs
        pure (rs, w.sink)
      else pure (rs, [])) destroyConn := rfl

section
variable (A : Prims I Q)
include A

theorem keeps_download (p : Bytes) (cb : Bool) : Keeps I (download p cb) := by
  have C := A.toPrimsC
  unfold download
  walk [keeps_createDataConnection C A.toPrimsD ‹_› _, keeps_finishTransfer C A.ddisc A.poll _ _, A.drecv _ _, A.destroy]

theorem keeps_upload {v : String} (hv : VerbOk Q v) (p : Bytes) (cb : Bool) : Keeps I (upload v p cb) := by
  have C := A.toPrimsC
  unfold upload
  walk [keeps_createDataConnection C A.toPrimsD ‹_› _, keeps_finishTransfer C A.ddisc A.poll _ _, A.dsend _ _, A.destroy]

theorem keeps_fileList (p : Option Bytes) (n : Bool) : Keeps I (fileList p n) := by
  have C := A.toPrimsC
  rw [fileList_blocks]
  walk [keeps_createDataConnection C A.toPrimsD ‹_› _, keeps_recvInto C _, A.drecv _ _, A.destroy, A.ddisc _, A.silence,
    A.listing _]

/-- every API call; `connect` and `setTransferType` need what not every invariant has -/
theorem keeps_run (op : Op) (hv : OpVerbOk Q op) (hc : ∀ h p c, op = .connect h p c → Keeps I (connect h p c))
    (ht : ∀ t, op = .setType t → Keeps I (setTransferType t)) : Keeps I op.run :=
  keeps_runC A.toPrimsC A.close op hv hc ht (fun _ _ _ => keeps_download A _ _) (fun _ _ _ _ => keeps_upload A (by subst_vars; exact hv) _ _)
    (fun _ _ _ => keeps_fileList A _ _)

end

section rel
variable {R : World → World → Prop} [IsPre R] {w₀ : World}

theorem keeps_of_step {α} {S : World → World → Prop} {m : M α} (h : CtlL.Keeps S m) (hs : ∀ w w', S w w' → R w w') :
    Keeps (R w₀) m :=
  ⟨fun w hw => IsPre.trans hw (hs _ _ (h w))⟩

theorem primsC_of (hc : ∀ w w', CtlStep w w' → R w w') : PrimsC (R w₀) (fun _ => True) where
  cmd _ _ := trivial
  send c _ := keeps_of_step (ctlSend_own c) hc
  recv := keeps_of_step ctlRecv_own fun _ _ h => hc _ _ h.ctl

theorem primsD_of (hd : ∀ w w', DescStep w w' → R w w') : PrimsD (R w₀) where
  dconn a p := keeps_of_step (dataConnect_own a p) hd
  dlisten := keeps_of_step dataListen_own hd
  daccept := keeps_of_step dataAccept_own hd
  ddisc g := keeps_of_step (dataDisconnect_own g) hd
  destroy := keeps_of_step destroyConn_own hd

theorem primsX_of (hm : ∀ w w', MoveStep w w' → R w w') : PrimsX (R w₀) where
  drecv cb t := keeps_of_step (dataRecv_own cb t) hm
  dsend cb t := keeps_of_step (dataSend_own cb t) hm
  poll := keeps_of_step poll_own hm
  silence := keeps_of_step (S := MoveStep) (Own.modifyW fun _ => ⟨rfl, rfl⟩) hm

theorem prims_of (hc : ∀ w w', CtlStep w w' → R w w') (hd : ∀ w w', DescStep w w' → R w w')
    (hm : ∀ w w', MoveStep w w' → R w w') (hl : ∀ w w', ListStep w w' → R w w') : Prims (R w₀) (fun _ => True) :=
  { primsC_of hc, primsD_of hd, primsX_of hm with
    close := keeps_of_step ctlClose_own fun _ _ h => hc _ _ h.ctl
    listing := fun t => keeps_of_step (listingNotify_own t) hl }

/-- a relation that tolerates every kind of step is kept by every API call (by `setTransferType` if it tolerates a
    new transfer type) -/
theorem run_of_steps (hc : ∀ w w', CtlStep w w' → R w w') (hd : ∀ w w', DescStep w w' → R w w')
    (hm : ∀ w w', MoveStep w w' → R w w') (hl : ∀ w w', ListStep w w' → R w w') (op : Op)
    (ht : ∀ t, op = .setType t → ∀ w, R w { w with ttype := t }) : CtlL.Keeps R op.run := by
  refine .rel fun w₀ => ?_
  have C : PrimsC (R w₀) (fun _ => True) := primsC_of hc
  refine keeps_run (prims_of hc hd hm hl) op (by cases op <;> first | trivial | exact .inl fun _ => trivial)
    (fun _ _ _ _ => keeps_connect C (keeps_of_step connectDrop_own fun _ _ h => hc _ _ h.ctl)
      (fun _ _ => keeps_of_step (connectOpen_own _ _) fun _ _ h => hc _ _ h.ctl) _ _ _)
    (fun t e => keeps_setTransferType C t ⟨fun w hw => IsPre.trans hw (ht t e w)⟩)

theorem CtlStep.setup {w w' : World} (h : CtlStep w w') : SetupStep w w' :=
  h.mono (fun _ _ h => congrArg (fun x => (x.1, x.2.2)) h) fun _ h => .inl h

theorem DescStep.setup {w w' : World} (h : DescStep w w') : SetupStep w w' :=
  h.mono (fun _ _ h => congrArg (·.2) h) fun _ h => .inr h

theorem createDataConnection_own (c : Bytes) (rs : Replies) : CtlL.Keeps SetupStep (createDataConnection c rs) :=
  .rel fun _ => keeps_createDataConnection (primsC_of fun _ _ h => h.setup) (primsD_of fun _ _ h => h.setup) trivial rs

/-- a program walked from the control primitives alone is a `CtlStep`: its walk `keeps_*`, at the invariant "reached from
    `w₀` by a `CtlStep`" -/
theorem ctlStep_of {α} {m : M α} (h : ∀ {I : World → Prop}, PrimsC I (fun _ => True) → Keeps I m) :
    CtlL.Keeps CtlStep m :=
  .rel fun _ => h (primsC_of fun _ _ h => h)

end rel

end Ftp.Client.Walk
