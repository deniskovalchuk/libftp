import Ftp.Model.ClientTls
import Ftp.Lemmas.ClientLogic
/-
  `lift m w = (r', recW w b')` where `(r', b') = cut w (m (pl w))`: `pl` / `recW` keep the books of the two traces,
  `cut` - a function on the result of the plain run, no program in sight - is what the SSL layer does to it.  A fact
  about `lift m` is a fact about a variable `x : Res α × World` (`cut_elim`); a fact about the world after is stated
  for a variable plain world `b` and carried over by `recW`, so that `w.base` is never compared with nested structure
  updates field by field.
-/
namespace Ftp.ClientTls
open Ftp.Client Ftp.Session

namespace D

/-- the control channel is protected and the peer answers the close-notify -/
def Good (w : WorldT) : Prop := w.ctlTls = true ∧ w.peerAnswersCloseNotify = true

/-- the plain world a lifted program starts in -/
def pl (w : WorldT) : World := { w.base with trace := [] }

/-- the TLS-level world after a lifted program whose plain run ended in `b` -/
def recW (w : WorldT) (b : World) : WorldT :=
  { w with base := { b with trace := w.base.trace }, trace := w.trace ++ b.trace.map (EvT.ev w.ctlTls) }

end D
open D

namespace Lift

theorem recW_dataTls (w : WorldT) (b : World) : (recW w b).dataTls = w.dataTls := rfl

theorem recW_pl (w : WorldT) : recW w (pl w) = w := by
  show ({ w with base := w.base, trace := w.trace ++ [] } : WorldT) = w
  rw [List.append_nil]

/-! ### what the SSL layer does to a plain run -/

/-- does the run end in a failed TLS shutdown (the 421 branch closed a connection whose peer had gone)? -/
def closeF (w : WorldT) (b : World) : Bool :=
  w.ctlSsl && w.base.connected && !b.connected && !w.peerAnswersCloseNotify

/-- the plain result `lift` passes on: cut at the first command write in a broken session, or after the close when
    the TLS shutdown fails; untouched otherwise -/
def cut {α} (w : WorldT) (x : Res α × World) : Res α × World :=
  match (if w.broken then splitAtFirstCtlWrite x.2.trace else none) with
  | some (pre, cmd) => (.throw, { pl w with trace := pre ++ [Ev.ctlWriteFail cmd] })
  | none => if closeF w x.2 then (.throw, { x.2 with trace := uptoClose x.2.trace }) else x

theorem lift_eq {α} (m : M α) (w : WorldT) :
    lift m w = ((cut w (m (pl w))).1, recW w (cut w (m (pl w))).2) := by
  unfold lift cut closeF pl
  rcases m { w.base with trace := [] } with ⟨r, b⟩
  dsimp only
  cases (if w.broken = true then splitAtFirstCtlWrite b.trace else none) with
  | some x => rfl
  | none => dsimp only; split <;> rfl

/-! ### the first command write of a trace -/

theorem split_cons {e : Ev} (he : ∀ x, e ≠ Ev.ctlWrite x) (t : List Ev) :
    splitAtFirstCtlWrite (e :: t) =
      (match splitAtFirstCtlWrite t with | some (pre, b) => some (e :: pre, b) | none => none) ∧
    writes (e :: t) = writes t := by
  cases e <;> first | exact ⟨rfl, rfl⟩ | exact absurd rfl (he _)

theorem split_spec (l : List Ev) :
    match splitAtFirstCtlWrite l with
    | some (pre, c) => writes pre = [] ∧ ∃ post, l = pre ++ Ev.ctlWrite c :: post
    | none => writes l = [] := by
  induction l with
  | nil => rfl
  | cons e t ih =>
    by_cases he : ∃ x, e = Ev.ctlWrite x
    · obtain ⟨x, rfl⟩ := he
      exact ⟨rfl, t, rfl⟩
    · have he : ∀ x, e ≠ Ev.ctlWrite x := fun x h => he ⟨x, h⟩
      rw [(split_cons he t).1]
      revert ih
      cases splitAtFirstCtlWrite t with
      | none => exact fun ih => (split_cons he t).2.trans ih
      | some p => exact fun ⟨hp, post, h⟩ => ⟨(split_cons he p.1).2.trans hp, post, congrArg (e :: ·) h⟩

theorem uptoClose_prefix (l : List Ev) : ∃ t, l = uptoClose l ++ t := by
  induction l with
  | nil => exact ⟨[], rfl⟩
  | cons e r ih =>
    unfold uptoClose
    split
    · exact ⟨r, rfl⟩
    · obtain ⟨t, ht⟩ := ih
      exact ⟨t, by rw [List.cons_append, ← ht]⟩

/-! ### consequences, each about a variable `x` -/

section cut
variable {α : Type} {w : WorldT} {x : Res α × World}

/-- the three ways a lifted run ends: nothing interferes; the TLS shutdown of the 421 branch fails (throw, a
    prefix `u` of the events - those up to the close -, the state of the plain run); the session is broken (throw at
    the first command write, the state as it was).  Every fact about `lift` below is read off this. -/
theorem cut_elim {P : Res α × World → Prop}
    (run : closeF w x.2 = false → (w.broken = true → writes x.2.trace = []) → P x)
    (closeFails : ∀ u t, x.2.trace = u ++ t → (w.broken = true → writes x.2.trace = []) →
      P (.throw, { x.2 with trace := u }))
    (broken : w.broken = true → ∀ pre cmd post, x.2.trace = pre ++ Ev.ctlWrite cmd :: post → writes pre = [] →
      P (.throw, { pl w with trace := pre ++ [Ev.ctlWriteFail cmd] })) : P (cut w x) := by
  obtain ⟨t, ht⟩ := uptoClose_prefix x.2.trace
  have fine : (w.broken = true → writes x.2.trace = []) →
      P (if closeF w x.2 then (.throw, { x.2 with trace := uptoClose x.2.trace }) else x) := fun hw => by
    cases hc : closeF w x.2 with
    | false => exact run hc hw
    | true => exact closeFails _ t ht hw
  unfold cut
  cases hb : w.broken with
  | false => exact fine (fun h => by rw [hb] at h; cases h)
  | true =>
    simp only [if_true]
    have hs := split_spec x.2.trace
    revert hs
    cases splitAtFirstCtlWrite x.2.trace with
    | some p => exact fun ⟨hp, post, h⟩ => broken hb p.1 p.2 post h hp
    | none => exact fun hs => fine fun _ => hs

theorem broken_of_good (hg : Good w) : w.broken = false := by
  unfold WorldT.broken; rw [hg.1]; simp

theorem closeF_of_good (hg : Good w) (b : World) : closeF w b = false := by
  unfold closeF; rw [hg.2]; simp

theorem cut_good (hg : Good w) : cut w x = x := by
  unfold cut
  rw [broken_of_good hg, closeF_of_good hg]
  rfl

theorem cut_silent (r : Res α) : cut w (r, pl w) = (r, pl w) := by
  have hc : closeF w (pl w) = false := by
    unfold closeF pl
    cases w.ctlSsl <;> cases w.base.connected <;> cases w.peerAnswersCloseNotify <;> rfl
  unfold cut
  have hs : splitAtFirstCtlWrite (pl w).trace = none := rfl
  simp only [hs, ite_self, hc, Bool.false_eq_true, if_false]

theorem cut_ok {a : α} : (cut w x).1 = .ok a → cut w x = x :=
  cut_elim (P := fun y => y.1 = .ok a → y = x) (fun _ _ _ => rfl) (fun _ _ _ _ h => by cases h)
    (fun _ _ _ _ _ _ h => by cases h)

/-- the events passed on are events of the plain run, or the failed write of a broken session -/
theorem cut_mem {e : Ev} : e ∈ (cut w x).2.trace → e ∈ x.2.trace ∨ ∃ c, e = Ev.ctlWriteFail c :=
  cut_elim (P := fun y => e ∈ y.2.trace → _) (fun _ _ h => .inl h)
    (fun _ t ht _ h => .inl (ht ▸ List.mem_append_left t h))
    (fun _ _ cmd _ hx _ h => (List.mem_append.1 h).elim (fun h => .inl (hx ▸ List.mem_append_left _ h))
      fun h => .inr ⟨cmd, List.mem_singleton.1 h⟩)

theorem cut_mem_nw (hw : writes x.2.trace = []) {e : Ev} : e ∈ (cut w x).2.trace → e ∈ x.2.trace :=
  cut_elim (P := fun y => e ∈ y.2.trace → _) (fun _ _ h => h) (fun _ t ht _ h => ht ▸ List.mem_append_left t h)
    (fun _ _ _ _ hx _ _ => by
      rw [hx, writes_append] at hw
      cases (List.append_eq_nil_iff.1 hw).2)

theorem cut_writes : ∃ t, writes x.2.trace = writes (cut w x).2.trace ++ t :=
  cut_elim (P := fun y => ∃ t, writes x.2.trace = writes y.2.trace ++ t) (fun _ _ => ⟨[], (List.append_nil _).symm⟩)
    (fun u t ht _ => ⟨writes t, by rw [← writes_append]; exact congrArg writes ht⟩)
    (fun _ pre cmd _ _ hp => ⟨writes x.2.trace, by
      show _ = writes (pre ++ [Ev.ctlWriteFail cmd]) ++ _
      rw [writes_append, hp]; rfl⟩)

theorem cut_broken (hb : w.broken = true) : writes (cut w x).2.trace = [] :=
  cut_elim (P := fun y => writes y.2.trace = []) (fun _ hw => hw hb)
    (fun u t ht hw => by
      have h := hw hb
      rw [ht, writes_append] at h
      exact (List.append_eq_nil_iff.1 h).1)
    (fun _ pre cmd _ _ hp => by
      show writes (pre ++ [Ev.ctlWriteFail cmd]) = []
      rw [writes_append, hp]; rfl)

/-- in a broken session a run that cannot complete without a command write is turned into a throw -/
theorem cut_broken_throws (hb : w.broken = true) (h : x.1 = .throw ∨ writes x.2.trace ≠ []) :
    (cut w x).1 = .throw :=
  cut_elim (P := fun y => y.1 = .throw) (fun _ hw => h.elim id fun h => absurd (hw hb) h) (fun _ _ _ _ => rfl)
    (fun _ _ _ _ _ _ => rfl)

end cut

/-! ### relations between plain worlds that do not look at the traces -/

def Blind (R : World → World → Prop) : Prop :=
  ∀ a b s t, R a b → R { a with trace := s } { b with trace := t }

theorem Blind.recW {R : World → World → Prop} (hR : Blind R) {w : WorldT} {b : World} (h : R (pl w) b) :
    R w.base (recW w b).base := hR (pl w) b w.base.trace w.base.trace h

theorem lift_good {α} {m : M α} {w : WorldT} (hg : Good w) : lift m w = ((m (pl w)).1, recW w (m (pl w)).2) := by
  rw [lift_eq, cut_good hg]

theorem lift_ok {α} {m : M α} {w w' : WorldT} {a : α} (h : lift m w = (.ok a, w')) :
    m (pl w) = (.ok a, (m (pl w)).2) ∧ w' = recW w (m (pl w)).2 := by
  rw [lift_eq] at h
  have h1 : (cut w (m (pl w))).1 = .ok a := congrArg Prod.fst h
  rw [cut_ok h1] at h
  exact ⟨Prod.ext (congrArg Prod.fst h : _) rfl, (congrArg Prod.snd h).symm⟩

end Lift
end Ftp.ClientTls
