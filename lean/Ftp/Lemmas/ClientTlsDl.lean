import Ftp.Lemmas.ClientTls
import Ftp.Lemmas.ClientOps
/-
  Forward run equations of an *accepted* download of the TLS layer (`Ftp.ClientTls.downloadT`), used by C03t: on a
  session whose control channel is protected and whose peer answers the close-notify, every lifted step behaves as
  its plain run (`lift_run`), so that the run equations of the plain steps (`ClientPrim`, `ClientSession`) are replayed
  one by one, interleaved with the two TLS-only steps (data handshake, close-notify on the data connection).
-/
namespace Ftp.ClientTls.D
open Ftp.Client Ftp.Endpoint Ftp.Session Ftp.Props.C01
open Ftp.Client.SessL Ftp.Client.OpsL Ftp.Client.Walk
open Ftp.ClientTls.L (passiveRestT activeRestT)

/-! ### lifted programs on a healthy protected session -/

theorem lift_run {α} {m : M α} {w : WorldT} (hg : Good w) {r : Res α} {b : World} (h : m (pl w) = (r, b)) :
    lift m w = (r, recW w b) := by
  rw [Lift.lift_good hg, h]

/-! ### facts about a plain world `b` carried over to `recW w b`: each about a variable `b` -/

theorem recW_conn (w : WorldT) (b : World) : (recW w b).base.conn = b.conn := rfl
theorem recW_ext (w : WorldT) (b : World) : ∃ evs, (recW w b).trace = w.trace ++ evs := ⟨_, rfl⟩

theorem good_recW {w : WorldT} (hg : Good w) (b : World) : Good (recW w b) := hg

/-! ### the monad of the TLS layer, pointwise -/

theorem bindT_ok {α β} {m : MT α} {f : α → MT β} {w w' : WorldT} {a : α} (h : m w = (.ok a, w')) :
    (m >>= f) w = f a w' := by rw [L.bindT_eq, h]

theorem pureT_run {α} (a : α) (w : WorldT) : (pure a : MT α) w = (.ok a, w) := rfl
theorem getT_bind {β} (f : WorldT → MT β) (w : WorldT) : (getT >>= f) w = f w w := rfl
theorem modifyT_bind {β} (g : WorldT → WorldT) (f : Unit → MT β) (w : WorldT) : (modifyT g >>= f) w = f () (g w) := rfl
theorem emitT_bind {β} (e : EvT) (f : Unit → MT β) (w : WorldT) :
    (emitT e >>= f) w = f () { w with trace := w.trace ++ [e] } := rfl
theorem emitT_run (e : EvT) (w : WorldT) : emitT e w = (.ok (), { w with trace := w.trace ++ [e] }) := rfl
theorem modifyT_run (g : WorldT → WorldT) (w : WorldT) : modifyT g w = (.ok (), g w) := rfl
theorem getT_run (w : WorldT) : getT w = (.ok w, w) := rfl
theorem throwT_run {α} (w : WorldT) : (throwT : MT α) w = (.throw, w) := rfl
theorem iteT_run {α} (c : Prop) [Decidable c] (a b : MT α) (w : WorldT) :
    (if c then a else b) w = if c then a w else b w := by split <;> rfl

/-- the world after a successful data handshake -/
def hsW (w : WorldT) : WorldT :=
  { w with hsOks := w.hsOks.tail, dataTls := true,
           trace := w.trace ++ [EvT.dataTlsHandshake (match w.base.conn with | some c => c.sock.getD 0 | none => 0)
             w.resume true] }

theorem dataHandshake_run (w : WorldT) (hctx : w.tlsCtx = true) (hhs : w.hsOks.head? = some true) :
    dataHandshake w = (.ok (), hsW w) := by
  unfold dataHandshake nextHandshake
  simp only [L.bindT_eq, getT_run, modifyT_run, emitT_run, pureT_run, iteT_run, Bool.false_eq_true, if_false, if_true,
    hctx, hhs, Option.getD_some, Bool.not_true]
  simp only [hsW, hctx]
  rfl

/-! ### frames

  The worlds after the steps are kept abstract (existentially quantified, with the facts the next steps need): the
  explicit terms nest structure updates, and comparing projections of nested updates is expensive. -/

/-- the TLS side of a world in which the set-up can run: protected control channel, a context, the next handshake
    succeeds -/
structure TOk (w : WorldT) : Prop where
  good : Good w
  ctx : w.tlsCtx = true
  hs : w.hsOks.head? = some true

theorem TOk.recW {w : WorldT} (h : TOk w) (b : World) : TOk (recW w b) := ⟨h.good, h.ctx, h.hs⟩

/-- what one command / reply turn leaves alone -/
structure FrameC (b b' : World) : Prop where
  conn : b'.conn = b.conn
  cf : b'.closeFails = b.closeFails
  oks : b'.connectOks = b.connectOks
  usr : Rusr b b'

/-- what a step on the `data_connection` object leaves alone -/
structure FrameD (b b' : World) : Prop where
  connected : b'.connected = b.connected
  sync : ∀ q, Sync b q → Sync b' q
  script : b'.script = b.script
  cf : b'.closeFails = b.closeFails
  act : b'.act = b.act
  v6 : b'.v6 = b.v6
  usr : Rusr b b'

theorem rusr_rfl (b : World) : Rusr b b := ⟨rfl, rfl, rfl, rfl, rfl, rfl, rfl, rfl, rfl, rfl⟩

/-! ### the frames do not look at the traces, and follow from the frames of the plain steps (`Walk.Own`) -/

theorem blind_frameC : Lift.Blind FrameC := fun _ _ _ _ h => ⟨h.conn, h.cf, h.oks, h.usr⟩
theorem blind_frameD : Lift.Blind FrameD :=
  fun _ _ _ _ h => ⟨h.connected, h.sync, h.script, h.cf, h.act, h.v6, h.usr⟩
theorem blind_rusr : Lift.Blind Rusr := fun _ _ _ _ h => h

theorem FrameC.of_ctl {b b' : World} (h : CtlStep b b') : FrameC b b' :=
  ⟨congrArg DescPart.conn h.desc, congrArg DescPart.closeFails h.desc, congrArg DescPart.connectOks h.desc,
    .of_ctl h⟩

/-- a step on the `data_connection` object that consults the close oracle no more than it restores -/
theorem FrameD.of_desc {b b' : World} (h : DescStep b b') (hcf : b'.closeFails = b.closeFails) : FrameD b b' :=
  ⟨congrArg CtlPart.connected h.ctl, fun _ => sync_of_dat (.of_desc h), congrArg CtlPart.script h.ctl, hcf,
    congrArg CtlPart.act h.ctl, congrArg CfgPart.v6 h.cfg, .of_desc h⟩

/-! ### the steps, with abstract worlds -/

theorem pciT_step {w : WorldT} {x : WfReply} {q : List WfReply} {a : Option DataAct} {gs : List SGroup} (c : Bytes)
    (rs : Replies) (tok : TOk w) (hc : w.base.connected = true) (hs : Sync w.base [])
    (hsc : w.base.script = (⟨x :: q, a⟩ :: gs).map SGroup.enc) (hx : x.wf) (hq : ∀ r ∈ q, r.wf) (h421 : x.code ≠ 421) :
    ∃ w', processCommandIntoT c rs w = (.ok (replyOf x, rs.append (replyOf x)), w') ∧ TOk w' ∧
      w'.dataTls = w.dataTls ∧ w'.base.connected = true ∧ Sync w'.base q ∧ w'.base.script = gs.map SGroup.enc ∧
      FrameC w.base w'.base ∧ (∀ y, a = some y → w'.base.act = some y) := by
  obtain ⟨h1, h2, h3⟩ := ask_next (w := pl w) c rs hc hs hsc hx hq
  exact ⟨_, lift_run tok.good h1, tok.recW _, Lift.recW_dataTls w _, askW_connected c (pl w) x hc h421, h2, h3,
    blind_frameC.recW (.of_ctl ((processCommandInto_step c rs).of_eq h1)),
    fun y hy => askW_act c (pl w) x _ gs y hsc hy⟩

theorem dataConnectT_step (addr : Bytes) (port : Nat) (w : WorldT) (tok : TOk w)
    (hok : w.base.connectOks.head?.getD false = true) :
    ∃ w' d, lift (dataConnect addr port) w = (.ok (), w') ∧ TOk w' ∧ w'.dataTls = w.dataTls ∧
      w'.base.conn = some { sock := some d, acc := none } ∧ FrameD w.base w'.base :=
  have h := dataConnect_ok addr port (pl w) hok
  ⟨_, w.base.nextD, lift_run tok.good h, tok.recW _, Lift.recW_dataTls w _, recW_conn w (dcW addr port (pl w)),
    blind_frameD.recW (.of_desc ((dataConnect_own addr port).of_eq h) rfl)⟩

theorem dataListenT_step (w : WorldT) (tok : TOk w) :
    ∃ w' l, lift dataListen w = (.ok (w.base.listenPorts.head?.getD 0), w') ∧ TOk w' ∧ w'.dataTls = w.dataTls ∧
      w'.base.conn = some { sock := none, acc := some l } ∧ FrameD w.base w'.base :=
  have h := dataListen_run (pl w)
  ⟨_, w.base.nextD, lift_run tok.good h, tok.recW _, Lift.recW_dataTls w _, recW_conn w (listenW (pl w)),
    blind_frameD.recW (.of_desc (dataListen_own.of_eq h) rfl)⟩

theorem dataAcceptT_step (w : WorldT) (tok : TOk w) (l : Nat)
    (hconn : w.base.conn = some { sock := none, acc := some l }) :
    ∃ w' d, lift dataAccept w = (.ok (), w') ∧ TOk w' ∧ w'.dataTls = w.dataTls ∧
      w'.base.conn = some { sock := some d, acc := some l } ∧ FrameD w.base w'.base :=
  have h : dataAccept (pl w) = (.ok (), acceptW l (pl w)) := by rw [dataAccept_eq]; simp [show (pl w).conn = _ from hconn]
  ⟨_, w.base.nextD, lift_run tok.good h, tok.recW _, Lift.recW_dataTls w _, recW_conn w (acceptW l (pl w)),
    blind_frameD.recW (.of_desc (dataAccept_own.of_eq h) rfl)⟩

theorem dataHandshake_step (w : WorldT) (tok : TOk w) :
    ∃ w', dataHandshake w = (.ok (), w') ∧ Good w' ∧ w'.dataTls = true ∧ w'.base = w.base :=
  ⟨_, dataHandshake_run w tok.ctx tok.hs, tok.good, rfl, rfl⟩

/-! ### the transfer command is accepted: a protected, open data socket is ready -/

/-- what the set-up of the data connection leaves when both commands are accepted and the handshake succeeds -/
structure Ready (b : World) (w1 : WorldT) (c : WfReply) (d : Nat) (a : Option Nat) (act : Option DataAct) : Prop where
  good : Good w1
  dtls : w1.dataTls = true
  conn : w1.base.connected = true
  sync : Sync w1.base [c]
  dconn : w1.base.conn = some { sock := some d, acc := a }
  cf : w1.base.closeFails = b.closeFails
  act : ∀ x, act = some x → w1.base.act = some x
  usr : Rusr b w1.base

theorem passiveRestT_accepted (cmd : Bytes) (rs : Replies) (w3 : WorldT) (m c : WfReply) (act : Option DataAct)
    (gs : List SGroup) (d : Nat) (tok : TOk w3) (hc : w3.base.connected = true) (hs : Sync w3.base [])
    (hsc : w3.base.script = (⟨[m, c], act⟩ :: gs).map SGroup.enc) (hm : m.wf) (hcw : c.wf) (hacc : m.code < 400)
    (hconn : w3.base.conn = some { sock := some d, acc := none }) :
    ∃ w5, passiveRestT cmd rs w3 = (.ok (true, rs.append (replyOf m)), w5) ∧ Ready w3.base w5 c d none act := by
  obtain ⟨w4, h1, tok4, _, hc4, hs4, _, fr, hact⟩ :=
    pciT_step cmd rs tok hc hs hsc hm (by simpa using hcw) (by omega)
  obtain ⟨w5, h2, hg5, hd5, hb5⟩ := dataHandshake_step w4 tok4
  refine ⟨w5, ?_, hg5, hd5, hb5 ▸ hc4, hb5 ▸ hs4, by rw [hb5, fr.conn, hconn], by rw [hb5, fr.cf], ?_, hb5 ▸ fr.usr⟩
  · unfold passiveRestT
    refine (bindT_ok h1).trans ?_
    dsimp only
    simp only [neg_of_lt hm hacc, Bool.false_eq_true, if_false]
    exact (bindT_ok h2).trans rfl
  · intro a ha
    rw [hb5]
    exact hact a ha

/-- the passive set-up: the set-up command is accepted and its reply parsed (`x`), the connect succeeds, the transfer
    command is accepted -/
theorem passiveT_accepted {β : Type} (verb : String) (parse : Bytes → Option β) (addr : β → WorldT → Bytes × Nat)
    (cmd : Bytes) (rs : Replies) (w : WorldT) (s m c : WfReply) (act : Option DataAct) (rest : List SGroup) (x : β)
    (tok : TOk w) (hstep : InStep w.base []) (hs : s.wf) (hm : m.wf) (hcw : c.wf) (hacc : s.code < 400)
    (hmain : m.code < 400) (hsc : w.base.script = (⟨[s], none⟩ :: ⟨[m, c], act⟩ :: rest).map SGroup.enc)
    (hok : w.base.connectOks.head?.getD false = true) (hp : parse s.text = some x) :
    ∃ w5 d, L.passiveT verb parse addr cmd rs w = (.ok (true, (rs.append (replyOf s)).append (replyOf m)), w5) ∧
      Ready w.base w5 c d none act := by
  obtain ⟨hconn, hsync⟩ := hstep
  obtain ⟨w1, h1, tok1, _, hc1, hs1, hsc1, fr1, _⟩ :=
    pciT_step (str verb) rs tok hconn hsync hsc hs (by simp) (by omega)
  obtain ⟨w2, d, h2, tok2, _, hconn2, fr2⟩ :=
    dataConnectT_step (addr x w1).1 (addr x w1).2 w1 tok1 (by rw [fr1.oks]; exact hok)
  obtain ⟨w5, h3, rd⟩ := passiveRestT_accepted cmd (rs.append (replyOf s)) w2 m c act rest d tok2
    (fr2.connected.trans hc1) (fr2.sync _ hs1) (fr2.script.trans hsc1) hm hcw hmain hconn2
  have hp' : parse (replyOf s).text = some x := hp
  refine ⟨w5, d, ?_, rd.good, rd.dtls, rd.conn, rd.sync,
    rd.dconn, by rw [rd.cf, fr2.cf, fr1.cf], rd.act, CtlL.IsPre.trans fr1.usr (CtlL.IsPre.trans fr2.usr rd.usr)⟩
  unfold L.passiveT
  refine (bindT_ok h1).trans ?_
  simp only [neg_of_lt hs hacc, Bool.false_eq_true, if_false, hp']
  exact (getT_bind _ _).trans ((bindT_ok h2).trans h3)

theorem activeRestT_accepted (line cmd : Bytes) (rs : Replies) (w1 : WorldT) (s m c : WfReply)
    (act : Option DataAct) (rest : List SGroup) (l : Nat) (tok : TOk w1)
    (hconn : w1.base.connected = true) (hsync : Sync w1.base [])
    (hs : s.wf) (hm : m.wf) (hcw : c.wf) (hacc : s.code < 400) (hmain : m.code < 400)
    (hsc : w1.base.script = (⟨[s], none⟩ :: ⟨[m, c], act⟩ :: rest).map SGroup.enc)
    (hdc : w1.base.conn = some { sock := none, acc := some l }) :
    ∃ w5 d, activeRestT line cmd rs w1 = (.ok (true, (rs.append (replyOf s)).append (replyOf m)), w5) ∧
      Ready w1.base w5 c d (some l) act := by
  obtain ⟨w2, h1, tok2, _, hc2, hs2, hsc2, fr2, _⟩ := pciT_step line rs tok hconn hsync hsc hs (by simp) (by omega)
  obtain ⟨w3, h2, tok3, _, hc3, hs3, _, fr3, hact⟩ :=
    pciT_step cmd (rs.append (replyOf s)) tok2 hc2 hs2 hsc2 hm (by simpa using hcw) (by omega)
  obtain ⟨w4, d, h3, tok4, _, hconn4, fr4⟩ := dataAcceptT_step w3 tok3 l (by rw [fr3.conn, fr2.conn, hdc])
  obtain ⟨w5, h4, hg5, hd5, hb5⟩ := dataHandshake_step w4 tok4
  refine ⟨w5, d, ?_, hg5, hd5, ?_, ?_, ?_, ?_, ?_, ?_⟩
  · unfold activeRestT
    refine (bindT_ok h1).trans ?_
    dsimp only
    simp only [neg_of_lt hs hacc, Bool.false_eq_true, if_false]
    refine (bindT_ok h2).trans ?_
    dsimp only
    simp only [neg_of_lt hm hmain, Bool.false_eq_true, if_false]
    refine (bindT_ok h3).trans ?_
    exact (bindT_ok h4).trans rfl
  · rw [hb5, fr4.connected]; exact hc3
  · rw [hb5]; exact fr4.sync _ hs3
  · rw [hb5]; exact hconn4
  · rw [hb5, fr4.cf, fr3.cf, fr2.cf]
  · intro a ha
    rw [hb5, fr4.act]
    exact hact a ha
  · rw [hb5]
    exact CtlL.IsPre.trans fr2.usr (CtlL.IsPre.trans fr3.usr fr4.usr)

theorem processActiveT_accepted (eprt : Bool) (cmd : Bytes) (rs : Replies) (w : WorldT) (s m c : WfReply)
    (act : Option DataAct) (rest : List SGroup) (tok : TOk w)
    (hstep : InStep w.base []) (hs : s.wf) (hm : m.wf) (hcw : c.wf) (hacc : s.code < 400) (hmain : m.code < 400)
    (hsc : w.base.script = (⟨[s], none⟩ :: ⟨[m, c], act⟩ :: rest).map SGroup.enc)
    (hv6 : eprt = false → w.base.v6 = false) :
    ∃ w5 d l, processActiveT eprt cmd rs w = (.ok (true, (rs.append (replyOf s)).append (replyOf m)), w5) ∧
      Ready w.base w5 c d (some l) act := by
  obtain ⟨hconn, hsync⟩ := hstep
  obtain ⟨w1, l, h0, tok1, _, hdc1, fr1⟩ := dataListenT_step w tok
  obtain ⟨line, hline⟩ := activeLine_some eprt { w1.base with listenPorts := w.base.listenPorts }
    (fun h => fr1.v6.trans (hv6 h))
  obtain ⟨w5, d, h1, rd⟩ := activeRestT_accepted line cmd rs w1 s m c act rest l tok1 (fr1.connected.trans hconn)
    (fr1.sync _ hsync) hs hm hcw hacc hmain (fr1.script.trans hsc) hdc1
  refine ⟨w5, d, l, ?_, rd.good, rd.dtls, rd.conn, rd.sync, rd.dconn, by rw [rd.cf, fr1.cf], rd.act,
    CtlL.IsPre.trans fr1.usr rd.usr⟩
  unfold processActiveT
  refine (bindT_ok h0).trans ((getT_bind _ _).trans ?_)
  cases eprt with
  | true => cases hline; exact h1
  | false =>
    have hl : fmtPort (if w1.base.v6 = true then Family.v6 else Family.v4) (addrText w1.base)
        (w.base.listenPorts.head?.getD 0) = some line := hline
    simp only [Bool.false_eq_true, if_false, hl]
    exact h1

/-- the set-up of the data connection of the TLS layer when both the set-up command and the transfer command are
    accepted and the data handshake succeeds, in all four methods -/
theorem cdcT_accepted (cmd : Bytes) (rs : Replies) (w : WorldT) (s m c : WfReply) (act : Option DataAct)
    (rest : List SGroup) (tok : TOk w) (hstep : InStep w.base []) (hs : s.wf) (hm : m.wf) (hcw : c.wf)
    (hacc : s.code < 400) (hmain : m.code < 400)
    (hpass : w.base.mode = .passive → w.base.connectOks.head? = some true ∧
      (if w.base.rfc then (parseEpsv s.text).isSome else (parsePasv s.text).isSome))
    (hv6 : w.base.mode = .active → w.base.rfc = false → w.base.v6 = false)
    (hsc : w.base.script = (⟨[s], none⟩ :: ⟨[m, c], act⟩ :: rest).map SGroup.enc) :
    ∃ w1 d a, createDataConnectionT cmd rs w = (.ok (true, (rs.append (replyOf s)).append (replyOf m)), w1) ∧
      Ready w.base w1 c d a act := by
  have tok0 : TOk { w with dataTls := false } := ⟨tok.good, tok.ctx, tok.hs⟩
  have hrun : createDataConnectionT cmd rs w = (match w.base.mode, w.base.rfc with
      | .passive, true => processEpsvT cmd rs
      | .passive, false => processPasvT cmd rs
      | .active, true => processActiveT true cmd rs
      | .active, false => processActiveT false cmd rs) { w with dataTls := false } := rfl
  rw [hrun]
  rcases hmo : w.base.mode <;> rcases hr : w.base.rfc <;> simp only
  · obtain ⟨hok, hparse⟩ := hpass hmo
    simp only [hr, Bool.false_eq_true, if_false] at hparse
    obtain ⟨x, hp⟩ := Option.isSome_iff_exists.mp hparse
    obtain ⟨w5, d, h1, rd⟩ := passiveT_accepted "PASV" _ (fun x _ => x) cmd rs { w with dataTls := false } s m c act rest
      x tok0 hstep hs hm hcw hacc hmain hsc (by show w.base.connectOks.head?.getD false = true; rw [hok]; rfl) hp
    exact ⟨w5, d, none, L.processPasvT_eq cmd rs ▸ h1, rd⟩
  · obtain ⟨hok, hparse⟩ := hpass hmo
    simp only [hr, if_true] at hparse
    obtain ⟨port, hp⟩ := Option.isSome_iff_exists.mp hparse
    obtain ⟨w5, d, h1, rd⟩ := passiveT_accepted "EPSV" _ (fun port w => (addrText w.base, port)) cmd rs
      { w with dataTls := false } s m c act rest port tok0 hstep hs hm hcw hacc hmain hsc
      (by show w.base.connectOks.head?.getD false = true; rw [hok]; rfl) hp
    exact ⟨w5, d, none, L.processEpsvT_eq cmd rs ▸ h1, rd⟩
  · obtain ⟨w5, d, l, h1, rd⟩ := processActiveT_accepted false cmd rs { w with dataTls := false } s m c act rest tok0
      hstep hs hm hcw hacc hmain hsc (fun _ => hv6 hmo hr)
    exact ⟨w5, d, some l, h1, rd⟩
  · obtain ⟨w5, d, l, h1, rd⟩ := processActiveT_accepted true cmd rs { w with dataTls := false } s m c act rest tok0
      hstep hs hm hcw hacc hmain hsc (fun h => by cases h)
    exact ⟨w5, d, some l, h1, rd⟩

theorem cdcT_trace (cmd : Bytes) (rs rs' : Replies) (w w1 : WorldT) (hctx : w.tlsCtx = true)
    (h : createDataConnectionT cmd rs w = (.ok (true, rs'), w1)) :
    ∃ P d o, w1.trace = w.trace ++ (P ++ [EvT.dataTlsHandshake d o true]) ∧ L.NoPay P := by
  obtain ⟨evs, ht, _, hpost⟩ := L.createDataConnectionT_ok cmd rs w
  obtain ⟨hp, hcase⟩ := L.createPost_shape hpost
  rw [h] at ht hcase
  rcases hcase with ⟨_, hne⟩ | ⟨P, d, o, ok, rfl, _, _, hok⟩
  · exact absurd rfl (hne hctx rs')
  · cases ok with
    | true => exact ⟨P, d, o, ht, (L.noPay_append.1 hp).1⟩
    | false => cases hok rfl

/-! ### the end of an accepted transfer -/

theorem liftDisc_step (w : WorldT) (hg : Good w) (d : Nat) (a : Option Nat)
    (hconn : w.base.conn = some { sock := some d, acc := a }) (hcl : ∀ b ∈ w.base.closeFails, b = false) :
    ∃ w', lift (dataDisconnect true) w = (.ok (), w') ∧ Good w' ∧ w'.base.connected = w.base.connected ∧
      (∀ q, Sync w.base q → Sync w'.base q) ∧ w'.base.conn = some { sock := none, acc := none } ∧
      Rusr w.base w'.base ∧ ∃ evs, w'.trace = w.trace ++ evs :=
  have h := dataDisconnect_ok true (pl w) d a hconn hcl
  have st := (dataDisconnect_own true).of_eq h
  -- `connected` is read off the frame: `rfl` would first compare the worlds under the projections, field by field
  ⟨_, lift_run hg h, good_recW hg _, congrArg CtlPart.connected st.ctl,
    fun q hq => (sync_of_dat (.of_desc st) hq : Sync (dropW true d a (pl w)) q),
    recW_conn w (dropW true d a (pl w)), blind_rusr.recW (.of_desc st), recW_ext w _⟩

theorem dataDisconnectT_step (w : WorldT) (hg : Good w) (hdt : w.dataTls = true) (d : Nat) (a : Option Nat)
    (hconn : w.base.conn = some { sock := some d, acc := a }) (hcl : ∀ b ∈ w.base.closeFails, b = false) :
    ∃ w', dataDisconnectT true w = (.ok (), w') ∧ Good w' ∧ w'.base.connected = w.base.connected ∧
      (∀ q, Sync w.base q → Sync w'.base q) ∧ w'.base.conn = some { sock := none, acc := none } ∧
      Rusr w.base w'.base ∧ ∃ evs, w'.trace = w.trace ++ evs := by
  obtain ⟨w', h1, g1, g2, g3, g4, g5, evs, g6⟩ :=
    liftDisc_step { w with trace := w.trace ++ [EvT.dataTlsShutdown d] } hg d a hconn hcl
  refine ⟨w', ?_, g1, g2, g3, g4, g5, [EvT.dataTlsShutdown d] ++ evs, by rw [g6, List.append_assoc]⟩
  unfold dataDisconnectT
  refine (getT_bind _ _).trans ?_
  simp only [hdt, if_true, hconn]
  refine (bindT_ok (emitT_run _ _)).trans ?_
  exact h1

theorem recvT_step (rs : Replies) (w : WorldT) (hg : Good w) (x : WfReply) (q : List WfReply)
    (hc : w.base.connected = true) (hs : Sync w.base (x :: q)) :
    ∃ w', lift (recvInto rs) w = (.ok (replyOf x, rs.append (replyOf x)), w') ∧ Good w' ∧
      w'.base.conn = w.base.conn ∧ Rusr w.base w'.base ∧ ∃ evs, w'.trace = w.trace ++ evs := by
  have h := recvInto_run rs (ctlRecv_got (w := pl w) hc hs).1
  exact ⟨_, lift_run hg h, good_recW hg _, recW_conn w (gotW (pl w) x.code x.text),
    blind_rusr.recW (FrameC.of_ctl ((recvInto_step rs).of_eq h)).usr, recW_ext w _⟩

theorem finishTransferT_step (rs : Replies) (w : WorldT) (c : WfReply) (hg : Good w) (hdt : w.dataTls = true)
    (d : Nat) (a : Option Nat) (hc : w.base.connected = true) (hs : Sync w.base [c])
    (hconn : w.base.conn = some { sock := some d, acc := a }) (hcl : ∀ b ∈ w.base.closeFails, b = false) :
    ∃ w', finishTransferT rs w = (.ok (rs.append (replyOf c)), w') ∧ Good w' ∧
      w'.base.conn = some { sock := none, acc := none } ∧ Rusr w.base w'.base ∧
      ∃ evs, w'.trace = w.trace ++ evs := by
  obtain ⟨w1, h1, g1, g2, g3, g4, g5, e1, g6⟩ := dataDisconnectT_step w hg hdt d a hconn hcl
  obtain ⟨w2, h2, k1, k2, k3, e2, k4⟩ := recvT_step rs w1 g1 c [] (g2.trans hc) (g3 _ hs)
  refine ⟨w2, ?_, k1, k2.trans g4, CtlL.IsPre.trans g5 k3, e1 ++ e2, by rw [k4, g6, List.append_assoc]⟩
  unfold finishTransferT
  refine (bindT_ok h1).trans ?_
  refine (bindT_ok h2).trans ?_
  rfl

theorem cleanupT_step (w : WorldT) (hg : Good w) (hconn : w.base.conn = some { sock := none, acc := none }) :
    ∃ w', cleanupT w = (.ok (), w') ∧ w'.base.conn = none ∧ Rusr w.base w'.base ∧
      ∃ evs, w'.trace = w.trace ++ evs := by
  have h : destroyConn (pl w) = (.ok (), { pl w with conn := none }) := by
    rw [destroyConn_eq, destroyW_done (pl w) hconn]
  have h1 := lift_run hg h
  refine ⟨{ recW w { pl w with conn := none } with dataTls := false }, ?_, recW_conn w { pl w with conn := none },
    blind_rusr.recW (.of_desc (destroyConn_own.of_eq h)), recW_ext w _⟩
  unfold cleanupT
  refine (bindT_ok h1).trans ?_
  rfl

theorem scopedT_ok {α} {body : MT α} {cleanup : MT Unit} {w w1 w2 : WorldT} {a : α} {u : Unit}
    (h1 : body w = (.ok a, w1)) (h2 : cleanup w1 = (.ok u, w2)) : scopedT body cleanup w = (.ok a, w2) := by
  simp only [L.scopedT_eq, h1, h2]

theorem liftMkCmd_succ (v : String) (a : Bytes) (w : WorldT) (ha : hasCrLf a = false) :
    lift (mkCmd v (some a)) w = (.ok (str v ++ [SP] ++ a), w) := by
  rw [L.lift_mkCmd]
  unfold makeCommand
  simp only [ha, Bool.false_eq_true, if_false]

theorem dataRecvT_step (w : WorldT) (hg : Good w) (payload : Bytes) (reads : List Nat) (more : List (Option Nat))
    (hb : ∀ n ∈ reads, 0 < n ∧ n ≤ 8192) (hsum : reads.sum = payload.length)
    (hact : w.base.act = some (.send payload)) (hreads : w.base.dataReads = reads.map some ++ some 0 :: more)
    (hsink : w.base.sinkFailAt = none) :
    ∃ w', lift (dataRecv false w.base.ttype) w = (.ok (), w') ∧ Good w' ∧ w'.dataTls = w.dataTls ∧
      w'.base.sinkFlushes = w.base.sinkFlushes + 1 ∧
      w'.base.sink = w.base.sink ++ (match w.base.ttype with | .binary => payload | .ascii => Spec.dlSpec payload) ∧
      w'.base.connected = w.base.connected ∧ (∀ q, Sync w.base q → Sync w'.base q) ∧
      w'.base.conn = w.base.conn ∧ w'.base.closeFails = w.base.closeFails ∧ ∃ evs, w'.trace = w.trace ++ evs := by
  obtain ⟨b2, hmv, f1, f2, hdat, hcf⟩ := dataRecv_sink (pl w) payload reads more hb hsum hact hreads hsink
  exact ⟨_, lift_run hg hmv, hg, rfl, f1, f2, hdat.connected,
    fun q hq => (sync_of_dat (w := pl w) (w' := b2) hdat hq : Sync b2 q), hcf.1, hcf.2, _, rfl⟩

theorem downloadT_run (path : Bytes) (w : WorldT) (s m c : WfReply) (payload : Bytes) (reads : List Nat)
    (more : List (Option Nat)) (rest : List SGroup) (tok : TOk w)
    (hstep : InStep w.base []) (hpath : hasCrLf path = false)
    (hs : s.wf) (hm : m.wf) (hc : c.wf) (hacc : s.code < 400) (hmain : m.code < 400)
    (hpass : w.base.mode = .passive → w.base.connectOks.head? = some true ∧
      (if w.base.rfc then (parseEpsv s.text).isSome else (parsePasv s.text).isSome))
    (hv6 : w.base.mode = .active → w.base.rfc = false → w.base.v6 = false)
    (hsc : w.base.script = (⟨[s], none⟩ :: ⟨[m, c], some (.send payload)⟩ :: rest).map SGroup.enc)
    (hclose : ∀ b ∈ w.base.closeFails, b = false)
    (hb : ∀ n ∈ reads, 0 < n ∧ n ≤ 8192) (hsum : reads.sum = payload.length)
    (hreads : w.base.dataReads = reads.map some ++ some 0 :: more)
    (hsink : w.base.sinkFailAt = none) :
    ∃ w' P d o Q, downloadT path w =
        (.ok (((Replies.empty.append (replyOf s)).append (replyOf m)).append (replyOf c)), w') ∧
      w'.base.sink = w.base.sink ++ (match w.base.ttype with | .binary => payload | .ascii => Spec.dlSpec payload) ∧
      w'.base.sinkFlushes = w.base.sinkFlushes + 1 ∧ w'.base.conn = none ∧
      w'.trace = w.trace ++ (P ++ EvT.dataTlsHandshake d o true :: Q) ∧ L.NoPay P := by
  have h0 := liftMkCmd_succ "RETR" path w hpath
  obtain ⟨w1, d, a, h1, rd⟩ := cdcT_accepted (str "RETR" ++ [SP] ++ path) Replies.empty w s m c (some (.send payload))
    rest tok hstep hs hm hc hacc hmain hpass hv6 hsc
  obtain ⟨P, d', o, ht1, hP⟩ := cdcT_trace _ _ _ w w1 tok.ctx h1
  obtain ⟨u1, u2, u3, u4, u5, u6, u7, u8, u9, u10⟩ := rd.usr
  obtain ⟨w2, h2, g2, dt2, f1, f2, c2, s2, dc2, cf2, e2, ht2⟩ := dataRecvT_step w1 rd.good payload reads more hb hsum
    (rd.act _ rfl) (u6.trans hreads) (u4.trans hsink)
  obtain ⟨w3, h3, g3, dc3, usr3, e3, ht3⟩ := finishTransferT_step ((Replies.empty.append (replyOf s)).append (replyOf m))
    w2 c g2 (dt2.trans rd.dtls) d a (c2.trans rd.conn) (s2 _ rd.sync) (dc2.trans rd.dconn)
    (by rw [cf2, rd.cf]; exact hclose)
  obtain ⟨w4, h4, dc4, usr4, e4, ht4⟩ := cleanupT_step w3 g3 dc3
  refine ⟨w4, P, d', o, e2 ++ (e3 ++ e4), ?_, ?_, ?_, dc4, ?_, hP⟩
  · unfold downloadT
    refine scopedT_ok ?_ h4
    refine (bindT_ok h0).trans ?_
    refine (bindT_ok h1).trans ?_
    dsimp only
    simp only [if_true]
    refine (getT_bind _ _).trans ?_
    refine (bindT_ok h2).trans ?_
    exact h3
  · rw [usr4.2.1, usr3.2.1, f2, u2, u1]
  · rw [usr4.2.2.1, usr3.2.2.1, f1, u3]
  · rw [ht4, ht3, ht2, ht1]
    simp only [List.append_assoc, List.cons_append, List.nil_append]

end Ftp.ClientTls.D
