import Ftp.Spec.Pure
import Ftp.Lemmas.Utils
/- both ASCII converters (C05) equal their reference substitution by one invariant: the output so far, followed by what
   is still owed for the unread input (`dlRest` for the download converter, `remain` for the upload converter), does not
   change -/
namespace Ftp.Ascii

theorem ulGo_length_le (b : Bool) (l : Bytes) : (Spec.ulGo b l).length ≤ 2 * l.length := by
  induction l generalizing b with
  | nil => simp [Spec.ulGo]
  | cons c t ih =>
    have h1 := ih true
    have h2 := ih false
    simp only [Spec.ulGo]
    split
    · simp only [List.length_cons]; omega
    · split
      · split
        · simp only [List.length_cons]; omega
        · simp only [List.length_cons]; omega
      · simp only [List.length_cons]; omega

theorem ulGo_true_eq_false (t : Bytes) (h : t.head? ≠ some LF) : Spec.ulGo true t = Spec.ulGo false t := by
  cases t with
  | nil => rfl
  | cons c t =>
    have hc : c ≠ LF := by simpa using h
    simp only [Spec.ulGo]
    split
    · rfl
    · simp

theorem dlSpec_cons_ne (c : Byte) (x : Bytes) (h : c ≠ CR) : Spec.dlSpec (c :: x) = c :: Spec.dlSpec x := by
  cases x with
  | nil => simp [Spec.dlSpec]
  | cons d t => simp [Spec.dlSpec, h]

theorem dlSpec_cr_lf (x : Bytes) : Spec.dlSpec (CR :: LF :: x) = LF :: Spec.dlSpec x := by
  simp [Spec.dlSpec]

theorem dlSpec_cr_ne (d : Byte) (x : Bytes) (h : d ≠ LF) :
    Spec.dlSpec (CR :: d :: x) = CR :: Spec.dlSpec (d :: x) := by
  simp [Spec.dlSpec, h]

theorem roundtrip_aux (s : Bytes) (h : CR ∉ s) : Spec.dlSpec (Spec.ulGo false s) = s := by
  induction s with
  | nil => simp [Spec.ulGo, Spec.dlSpec]
  | cons c t ih =>
    have hc : c ≠ CR := by
      intro e; apply h; simp [e]
    have ht : CR ∉ t := by
      intro e; apply h; simp [e]
    simp only [Spec.ulGo, hc, if_false]
    split
    · next hlf =>
      subst hlf
      simp only [Bool.false_eq_true, if_false]
      rw [dlSpec_cr_lf, ih ht]
    · rw [dlSpec_cons_ne _ _ hc, ih ht]

/-- what is still owed to the sink: the pending CR followed by the rest of the input, converted -/
def dlRest (prev : Bool) (s : Bytes) : Bytes := Spec.dlSpec ((if prev then [CR] else []) ++ s)

/-- what is owed steps through the input as `writeGo` does -/
theorem dlRest_cons (prev : Bool) (ch : Byte) (x : Bytes) : dlRest prev (ch :: x) =
    if ch = CR then (if prev then CR :: dlRest true x else dlRest true x)
    else if ch = LF then LF :: dlRest false x
    else (if prev then [CR, ch] else [ch]) ++ dlRest false x := by
  by_cases hcr : ch = CR
  · subst hcr
    cases prev <;> simp [dlRest, dlSpec_cr_ne _ _ cr_ne_lf]
  · by_cases hlf : ch = LF
    · subst hlf
      cases prev <;> simp [hcr, dlRest, dlSpec_cr_lf, dlSpec_cons_ne _ _ hcr]
    · cases prev <;> simp [hcr, hlf, dlRest, dlSpec_cr_ne _ _ hlf, dlSpec_cons_ne _ _ hcr]

theorem writeGo_spec (chunk : Bytes) : ∀ (prev : Bool) (out rest : Bytes),
    (writeGo chunk prev out).1 ++ dlRest (writeGo chunk prev out).2 rest
      = out ++ dlRest prev (chunk ++ rest) := by
  induction chunk with
  | nil => intro prev out rest; simp [writeGo]
  | cons ch t ih =>
    intro prev out rest
    rw [List.cons_append, dlRest_cons, writeGo]
    by_cases hcr : ch = CR
    · cases prev <;> simp [hcr, ih]
    · by_cases hlf : ch = LF
      · subst hlf; simp [hcr, ih]
      · cases prev <;> simp [hcr, hlf, ih]

theorem download_spec (chunks : List Bytes) : ∀ (prev : Bool) (acc : Bytes),
    download chunks prev acc = acc ++ dlRest prev chunks.flatten := by
  induction chunks with
  | nil =>
    intro prev acc
    cases prev <;> simp [download, flush, dlRest, Spec.dlSpec]
  | cons c cs ih =>
    intro prev acc
    simp only [download, write, List.flatten_cons]
    rw [ih, List.append_assoc, writeGo_spec]
    simp

@[simp] theorem lfIf_false : lfIf false = [] := rfl
@[simp] theorem lfIf_true : lfIf true = [LF] := rfl

/-- what `inner` does with one character: the new output, `skip_linefeed_` and `need_linefeed_` -/
def charStep (size : Nat) (ch : Byte) (out : Bytes) (skip need : Bool) : Bytes × Bool × Bool :=
  if ch = CR then
    if out.length + 1 ≥ size then (out ++ [CR], true, true) else (out ++ [CR, LF], true, need)
  else if ch = LF then
    if !skip then
      (if out.length + 1 ≥ size then (out ++ [CR], false, true) else (out ++ [CR, LF], false, need))
    else (out, false, need)
  else (out ++ [ch], false, need)

theorem inner_cons (size : Nat) (ch : Byte) (rest out : Bytes) (skip need : Bool) :
    inner size (ch :: rest) out skip need =
      if (charStep size ch out skip need).1.length ≥ size then
        (rest, (charStep size ch out skip need).1, (charStep size ch out skip need).2.1,
          (charStep size ch out skip need).2.2)
      else inner size rest (charStep size ch out skip need).1 (charStep size ch out skip need).2.1
        (charStep size ch out skip need).2.2 := rfl

/-- one character: the output grows by its conversion, except that the LF of a CR LF for which the buffer has no room
    is owed -/
theorem charStep_spec (size : Nat) (ch : Byte) (out : Bytes) (skip : Bool) (x : Bytes) (hlt : out.length < size) :
    (charStep size ch out skip false).1 ++ lfIf (charStep size ch out skip false).2.2 ++
        Spec.ulGo (charStep size ch out skip false).2.1 x = out ++ Spec.ulGo skip (ch :: x) ∧
    (charStep size ch out skip false).1.length ≤ size ∧
    ((charStep size ch out skip false).2.2 = true → size ≤ (charStep size ch out skip false).1.length) := by
  unfold charStep
  by_cases hcr : ch = CR
  · subst hcr
    by_cases hfull : out.length + 1 ≥ size <;> simp [hfull, Spec.ulGo] <;> omega
  · by_cases hlf : ch = LF
    · subst hlf
      cases skip
      · by_cases hfull : out.length + 1 ≥ size <;> simp [hcr, hfull, Spec.ulGo] <;> omega
      · simp [hcr, Spec.ulGo]; omega
    · simp [hcr, hlf, Spec.ulGo]; omega

/-- the invariant of the inner loop -/
structure InnerPost (size : Nat) (internal out : Bytes) (skip : Bool) (tail : Bytes)
    (r : Bytes × Bytes × Bool × Bool) : Prop where
  eq : r.2.1 ++ lfIf r.2.2.2 ++ Spec.ulGo r.2.2.1 (r.1 ++ tail) = out ++ Spec.ulGo skip (internal ++ tail)
  le : r.2.1.length ≤ size
  done : r.1 = [] ∨ size ≤ r.2.1.length
  need : r.2.2.2 = true → size ≤ r.2.1.length
  dec : r.1.length ≤ internal.length - 1

theorem inner_spec (size : Nat) (internal : Bytes) : ∀ (out : Bytes) (skip : Bool) (tail : Bytes),
    out.length < size → InnerPost size internal out skip tail (inner size internal out skip false) := by
  induction internal with
  | nil =>
    intro out skip tail hlt
    constructor <;> simp [inner] <;> omega
  | cons ch t ih =>
    intro out skip tail hlt
    obtain ⟨heq, hle, hneed⟩ := charStep_spec size ch out skip (t ++ tail) hlt
    rw [inner_cons]
    generalize charStep size ch out skip false = r at heq hle hneed ⊢
    obtain ⟨out1, skip1, need1⟩ := r
    by_cases hstop : out1.length ≥ size
    · rw [if_pos hstop]
      exact ⟨heq, hle, .inr hstop, fun _ => hstop, by simp⟩
    · cases need1 with
      | true => exact absurd (hneed rfl) hstop
      | false =>
        rw [if_neg hstop]
        have h := ih out1 skip1 tail (by omega)
        exact ⟨by rw [h.eq]; simpa using heq, h.le, h.done, h.need,
          by have := h.dec; simp only [List.length_cons]; omega⟩

theorem Src.read_spec (s : Src) (n : Nat) (hn : 1 ≤ n) :
    (s.read n).1 ++ (s.read n).2.data = s.data ∧ ((s.read n).1 = [] → s.data = []) := by
  simp only [Src.read, List.take_append_drop, true_and]
  intro h
  rw [List.take_eq_nil_iff] at h
  rcases h with h | h
  · exfalso
    split at h
    · omega
    · split at h <;> omega
  · exact h

theorem outer_succ (size fuel : Nat) (st : IState) (src : Src) (out : Bytes) :
    outer size (fuel + 1) st src out =
      if out.length ≥ size then (st, src, out)
      else if st.internal.isEmpty then
        if (src.read st.bufSize).1.isEmpty then ({ st with internal := [] }, (src.read st.bufSize).2, out)
        else
          let r := inner size (src.read st.bufSize).1 out st.skipLf st.needLf
          outer size fuel { st with internal := r.1, skipLf := r.2.2.1, needLf := r.2.2.2 }
            (src.read st.bufSize).2 r.2.1
      else
        let r := inner size st.internal out st.skipLf st.needLf
        outer size fuel { st with internal := r.1, skipLf := r.2.2.1, needLf := r.2.2.2 } src r.2.1 := by
  rw [outer]
  by_cases h1 : out.length ≥ size
  · simp only [h1, if_true]
  · by_cases h2 : st.internal.isEmpty = true
    · simp only [h1, h2, if_true, if_false]
    · simp [h1, h2]

/-- what the converter still owes: the pending LF followed by the conversion of the unread input -/
def remain (st : IState) (src : Src) : Bytes :=
  lfIf st.needLf ++ Spec.ulGo st.skipLf (st.internal ++ src.data)

structure OuterPost (size : Nat) (st : IState) (src : Src) (out : Bytes) (r : IState × Src × Bytes) : Prop where
  eq : r.2.2 ++ remain r.1 r.2.1 = out ++ remain st src
  le : r.2.2.length ≤ size
  done : size ≤ r.2.2.length ∨ remain r.1 r.2.1 = []
  buf : r.1.bufSize = st.bufSize

theorem outer_spec (size : Nat) : ∀ (fuel : Nat) (st : IState) (src : Src) (out : Bytes),
    1 ≤ st.bufSize → out.length ≤ size → (st.needLf = true → size ≤ out.length) →
    st.internal.length + src.data.length + 1 ≤ fuel →
    OuterPost size st src out (outer size fuel st src out) := by
  intro fuel
  induction fuel with
  | zero => intro st src out _ _ _ h; omega
  | succ fuel ih =>
    intro st src out hb hle hneed hfuel
    rw [outer_succ]
    by_cases h1 : out.length ≥ size
    · simp only [h1, if_true]
      exact ⟨rfl, hle, Or.inl h1, rfl⟩
    · have hlt : out.length < size := by omega
      obtain ⟨need, skip, internal, bufSize⟩ := st
      have hnf : need = false := by
        cases need
        · rfl
        · exact absurd (hneed rfl) h1
      subst hnf
      simp only at hb hfuel
      simp only [h1, if_false]
      -- one pass of the inner loop over a non-empty `int` with `int ++ src'.data` the unread input, then the
      -- induction hypothesis
      have pass : ∀ (int : Bytes) (src' : Src), int ≠ [] → int ++ src'.data = internal ++ src.data →
          OuterPost size ⟨false, skip, internal, bufSize⟩ src out
            (outer size fuel ⟨(inner size int out skip false).2.2.2, (inner size int out skip false).2.2.1,
              (inner size int out skip false).1, bufSize⟩ src' (inner size int out skip false).2.1) := by
        intro int src' hne hint
        have hi := inner_spec size int out skip src'.data hlt
        generalize inner size int out skip false = r at hi ⊢
        obtain ⟨rest, out', skip', need'⟩ := r
        have hlen := congrArg List.length hint
        have hpos := List.length_pos_iff.mpr hne
        have hdec := hi.dec
        simp only [List.length_append] at hlen hdec
        have hr := ih ⟨need', skip', rest, bufSize⟩ src' out' hb hi.le hi.need (by simp only; omega)
        refine ⟨?_, hr.le, hr.done, hr.buf⟩
        rw [hr.eq]
        have := hi.eq
        simp only [remain, lfIf_false, List.nil_append] at this ⊢
        rw [← List.append_assoc, this, hint]
      cases internal with
      | nil =>
        simp only [List.isEmpty_nil, if_true]
        obtain ⟨hrd1, hrd2⟩ := Src.read_spec src bufSize hb
        generalize src.read bufSize = rd at hrd1 hrd2 ⊢
        obtain ⟨got, src'⟩ := rd
        simp only at hrd1 hrd2 ⊢
        cases got with
        | nil =>
          have hd := hrd2 rfl
          simp only [List.nil_append] at hrd1
          simp only [List.isEmpty_nil, if_true]
          exact ⟨by simp [remain, hrd1, hd], hle, .inr (by simp [remain, hrd1, hd, Spec.ulGo]), rfl⟩
        | cons g gs =>
          simp only [List.isEmpty_cons, Bool.false_eq_true, if_false]
          exact pass (g :: gs) src' (by simp) (by simpa using hrd1)
      | cons i is =>
        simp only [List.isEmpty_cons, Bool.false_eq_true, if_false]
        exact pass (i :: is) src (by simp) rfl

theorem read_spec (st : IState) (src : Src) (size : Nat) (hs : 1 ≤ size) (hb : 1 ≤ st.bufSize) :
    (read st src size).1 ++ remain (read st src size).2.1 (read st src size).2.2 = remain st src ∧
    ((read st src size).1 = [] → remain st src = []) ∧
    (read st src size).2.1.bufSize = st.bufSize ∧ (read st src size).1.length ≤ size := by
  have hs' : 0 < size := hs
  obtain ⟨need, skip, internal, bufSize⟩ := st
  -- the owed LF goes out first: the outer loop starts with it, and with nothing owed
  have hr := outer_spec size (internal.length + src.data.length + 1) ⟨false, skip, internal, bufSize⟩ src (lfIf need)
    hb (by cases need <;> simp <;> omega) (by simp) (by simp)
  have e : read ⟨need, skip, internal, bufSize⟩ src size = (fun r => (r.2.2, r.1, r.2.1))
      (outer size (internal.length + src.data.length + 1) ⟨false, skip, internal, bufSize⟩ src (lfIf need)) := by
    cases need <;> simp [read, hs']
  rw [e]
  generalize outer size _ _ src (lfIf need) = r at hr ⊢
  obtain ⟨st', src', out⟩ := r
  have heq : out ++ remain st' src' = remain ⟨need, skip, internal, bufSize⟩ src := by simpa [remain] using hr.eq
  refine ⟨heq, ?_, hr.buf, hr.le⟩
  rintro rfl
  rcases hr.done with h | h
  · simp at h; omega
  · rw [← heq, h]; rfl

def nextSize (sizes : List Nat) : Nat :=
  match sizes with
  | [] => 8192
  | k :: _ => if k = 0 then 1 else k

theorem nextSize_pos (sizes : List Nat) : 1 ≤ nextSize sizes := by
  unfold nextSize
  split
  · omega
  · split <;> omega

theorem drain_succ (fuel : Nat) (st : IState) (src : Src) (sizes : List Nat) (acc : Bytes) :
    drain (fuel + 1) st src sizes acc =
      if (read st src (nextSize sizes)).1.isEmpty then (acc, true)
      else drain fuel (read st src (nextSize sizes)).2.1 (read st src (nextSize sizes)).2.2 sizes.tail
        (acc ++ (read st src (nextSize sizes)).1) := by
  cases sizes <;> rfl

theorem drain_spec : ∀ (fuel : Nat) (st : IState) (src : Src) (sizes : List Nat) (acc : Bytes),
    1 ≤ st.bufSize → (remain st src).length + 1 ≤ fuel →
    drain fuel st src sizes acc = (acc ++ remain st src, true) := by
  intro fuel
  induction fuel with
  | zero => intro st src sizes acc _ h; omega
  | succ fuel ih =>
    intro st src sizes acc hb hfuel
    rw [drain_succ]
    have hsz := nextSize_pos sizes
    generalize nextSize sizes = size at hsz ⊢
    obtain ⟨h1, h2, h3, _⟩ := read_spec st src size hsz hb
    generalize read st src size = r at h1 h2 h3 ⊢
    obtain ⟨out, st', src'⟩ := r
    simp only at h1 h2 h3 ⊢
    cases out with
    | nil =>
      simp [h2 rfl]
    | cons o os =>
      simp only [List.isEmpty_cons, Bool.false_eq_true, if_false]
      rw [ih st' src' sizes.tail (acc ++ o :: os) (by omega) (by
        rw [← h1] at hfuel
        simp only [List.length_append, List.length_cons] at hfuel
        omega)]
      rw [← h1, List.append_assoc]

theorem upload_spec (bufSize : Nat) (hb : 1 ≤ bufSize) (data : Bytes) (sched sizes : List Nat) :
    upload bufSize data sched sizes = (Spec.ulGo false data, true) := by
  unfold upload
  rw [drain_spec _ _ _ _ _ hb]
  · simp [remain, IState.init]
  · have := ulGo_length_le false data
    simp [remain, IState.init]
    omega

end Ftp.Ascii
