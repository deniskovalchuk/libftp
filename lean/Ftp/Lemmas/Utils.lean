import Ftp.Model.Utils
/- the decimal parsers of src/utils.cpp return the value of the digits written exactly when it fits the bound
   (`parseBounded_spec`); n digits are worth less than 10 ^ n.  At the end `Ascii.lfIf`, the LF owed after a split
   CR LF, which the reader lemmas and the converter lemmas share -/
namespace Ftp
open Ftp.Utils

theorem cr_ne_lf : CR ≠ LF := by decide

def decStep (n d : Nat) : Nat := 10 * n + (d - 48)

theorem decValue_eq_foldl (ds : Bytes) : decValue ds = ds.foldl decStep 0 := rfl

theorem foldl_decStep_ge (s : Bytes) (a : Nat) : a ≤ s.foldl decStep a := by
  induction s generalizing a with
  | nil => simp
  | cons c t ih =>
    simp only [List.foldl_cons]
    have := ih (decStep a c)
    unfold decStep at this ⊢
    omega

theorem parseU64Loop_spec (s : Bytes) (v : Nat) (hv : v ≤ u64max) :
    parseU64Loop s v =
      if s.all isDigit = true ∧ s.foldl decStep v ≤ u64max then some (s.foldl decStep v) else none := by
  induction s generalizing v with
  | nil => simp [parseU64Loop, hv]
  | cons ch rest ih =>
    simp only [parseU64Loop, List.all_cons, List.foldl_cons]
    by_cases hd : isDigit ch = true
    · have h48 : 48 ≤ ch ∧ ch ≤ 57 := by simpa [isDigit] using hd
      have hnd : (ch < 48 || ch > 57) = false := by
        simp only [Bool.or_eq_false_iff, decide_eq_false_iff_not]; omega
      simp only [hnd, Bool.false_eq_true, if_false, hd, Bool.true_and]
      have hge := foldl_decStep_ge rest (decStep v ch)
      by_cases h1 : v > u64max / 10
      · simp only [h1, if_true]
        have : ¬ (List.foldl decStep (decStep v ch) rest ≤ u64max) := by
          unfold decStep u64max at *; omega
        simp [this]
      · simp only [h1, if_false]
        by_cases h2 : v * 10 > u64max - (ch - 48)
        · simp only [h2, if_true]
          have : ¬ (List.foldl decStep (decStep v ch) rest ≤ u64max) := by
            unfold decStep u64max at *; omega
          simp [this]
        · simp only [h2, if_false]
          have hv' : v * 10 + (ch - 48) ≤ u64max := by unfold u64max at *; omega
          rw [ih _ hv']
          have : v * 10 + (ch - 48) = decStep v ch := by unfold decStep; omega
          rw [this]
    · have hnd : (ch < 48 || ch > 57) = true := by
        have hd' : ¬ (48 ≤ ch ∧ ch ≤ 57) := by simpa [isDigit] using hd
        simp only [Bool.or_eq_true, decide_eq_true_eq]; omega
      simp [hnd, hd]

theorem parseU64_spec (s : Bytes) :
    parseU64 s = if isDigits s = true ∧ decValue s ≤ u64max then some (decValue s) else none := by
  unfold parseU64 isDigits
  cases s with
  | nil => simp
  | cons c t =>
    simp only [List.isEmpty_cons, Bool.false_eq_true, if_false, Bool.not_false, Bool.true_and]
    rw [parseU64Loop_spec _ _ (by unfold u64max; omega)]
    rfl

theorem parseBounded_spec (max : Nat) (hm : max ≤ u64max) (s : Bytes) :
    parseBounded max s = if isDigits s = true ∧ decValue s ≤ max then some (decValue s) else none := by
  unfold parseBounded
  rw [parseU64_spec]
  by_cases h : isDigits s = true
  · by_cases h2 : decValue s ≤ max
    · have : decValue s ≤ u64max := by omega
      simp [h, h2, this]
    · by_cases h3 : decValue s ≤ u64max
      · simp [h, h2, h3]
      · simp [h, h2, h3]
  · simp [h]

theorem parseBounded_some {max : Nat} (hm : max ≤ u64max) {s : Bytes} {n : Nat} (h : parseBounded max s = some n) :
    isDigits s = true ∧ n = decValue s ∧ n ≤ max := by
  rw [parseBounded_spec max hm] at h
  split at h
  · rename_i hc; cases h; exact ⟨hc.1, rfl, hc.2⟩
  · cases h

theorem parseU8_spec (s : Bytes) :
    parseU8 s = if isDigits s = true ∧ decValue s ≤ 255 then some (decValue s) else none :=
  parseBounded_spec 255 (by unfold u64max; omega) s

theorem parseU16_spec (s : Bytes) :
    parseU16 s = if isDigits s = true ∧ decValue s ≤ 65535 then some (decValue s) else none :=
  parseBounded_spec 65535 (by unfold u64max; omega) s

theorem parseU32_spec (s : Bytes) :
    parseU32 s = if isDigits s = true ∧ decValue s ≤ 4294967295 then some (decValue s) else none :=
  parseBounded_spec 4294967295 (by unfold u64max; omega) s

theorem foldl_decStep_lt (ds : Bytes) (h : ds.all isDigit = true) (a : Nat) :
    ds.foldl decStep a < (a + 1) * 10 ^ ds.length := by
  induction ds generalizing a with
  | nil => simp
  | cons c t ih =>
    simp only [List.all_cons, Bool.and_eq_true, isDigit, decide_eq_true_eq] at h
    have := ih h.2 (decStep a c)
    have hs : decStep a c + 1 ≤ (a + 1) * 10 := by unfold decStep; unfold Byte at *; omega
    calc (c :: t).foldl decStep a < (decStep a c + 1) * 10 ^ t.length := this
      _ ≤ (a + 1) * 10 * 10 ^ t.length := Nat.mul_le_mul_right _ hs
      _ = (a + 1) * 10 ^ (c :: t).length := by rw [List.length_cons, Nat.pow_succ, Nat.mul_assoc, Nat.mul_comm 10]

theorem decValue_lt_pow (ds : Bytes) (h : ds.all isDigit = true) : decValue ds < 10 ^ ds.length := by
  simpa [decValue_eq_foldl] using foldl_decStep_lt ds h 0

/-- a non-empty field too short to exceed the bound: only its characters decide -/
theorem parseBounded_short (max : Nat) (hm : max ≤ u64max) (s : Bytes) (hne : s ≠ []) (hs : 10 ^ s.length ≤ max + 1) :
    parseBounded max s = if s.all isDigit = true then some (decValue s) else none := by
  rw [parseBounded_spec max hm]
  have he : s.isEmpty = false := by cases s <;> simp_all
  by_cases hd : s.all isDigit = true
  · have := decValue_lt_pow s hd
    rw [if_pos ⟨by simp [isDigits, he, hd], by omega⟩, if_pos hd]
  · rw [if_neg (fun h => hd (by simpa [isDigits, he] using h.1)), if_neg hd]

/- the LF that is still owed when a CR LF pair was split: by the ASCII upload converter between two caller buffers,
   by the control reader between two deliveries -/
namespace Ascii
def lfIf (b : Bool) : Bytes := if b then [LF] else []
end Ascii

end Ftp
