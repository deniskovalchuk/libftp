import Ftp.Lemmas.ClientTls
/-
  State-aware walk through a transfer of the TLS layer (`Ftp.ClientTls.uploadT`), used by C04t: after a successful
  data handshake the data socket is an ssl_socket (`dataTls = true`) and open, so that the end of the transfer is
  close-notify, TCP shutdown, close - and only then the read of the completion reply.
-/
namespace Ftp.ClientTls.X
open Ftp.Client Ftp.ClientTls.L Ftp.ClientTls.D Ftp.Client.Walk

/-! ## plain layer: programs that leave the `data_connection` object alone (`KC`, as a predicate of its own; the proofs
    below read `conn` off the frames of `Walk`) -/

def KC {α} (m : M α) : Prop := ∀ b, (m b).2.conn = b.conn

theorem kc_modifyW {f : World → World} (hf : ∀ b, (f b).conn = b.conn) : KC (modifyW f) := hf
theorem kc_emit (e : Ev) : KC (emit e) := fun _ => rfl
theorem kc_forObservers (f : Nat → Ev) : KC (forObservers f) := fun _ => rfl

theorem kc_of_ctl {α} {m : M α} (k : CtlL.Keeps CtlStep m) : KC m := fun b => congrArg DescPart.conn (k b).desc

theorem ctlClose_kc : KC ctlClose := kc_of_ctl fun b => (ctlClose_own b).ctl

def EvOnly (evs : List EvT) : Prop := ∀ e ∈ evs, ∃ t e0, e = EvT.ev t e0

theorem evOnly_append {a b : List EvT} (ha : EvOnly a) (hb : EvOnly b) : EvOnly (a ++ b) :=
  List.forall_mem_append.2 ⟨ha, hb⟩
theorem evOnly_map (t : Bool) (evs : List Ev) : EvOnly (evs.map (EvT.ev t)) :=
  List.forall_mem_map.2 fun e0 _ => ⟨t, e0, rfl⟩
theorem evOnly_noTS {evs : List EvT} (h : EvOnly evs) : NoTS evs := by
  intro e he d hd
  obtain ⟨t, e0, h0⟩ := h e he
  rw [h0] at hd; cases hd
theorem noTS_append {a b : List EvT} (ha : NoTS a) (hb : NoTS b) : NoTS (a ++ b) :=
  List.forall_mem_append.2 ⟨ha, hb⟩

/-! ### the end of a transfer on a protected data connection -/

/-- what follows the close of the data descriptor: lifted events none of which is a payload write, among them a read
    on the control channel -/
def PostOK (post : List EvT) : Prop :=
  (∀ e ∈ post, ∃ t e0, e = EvT.ev t e0 ∧ ∀ d n, e0 ≠ Ev.dataWrite d n) ∧ ∃ t, EvT.ev t .ctlReadLine ∈ post

theorem q3_noWrite {k e} (h : Q3 k e) : ∃ t e0, e = EvT.ev t e0 ∧ ∀ d n, e0 ≠ Ev.dataWrite d n := by
  obtain ⟨e0, rfl, hp⟩ := h
  exact ⟨_, e0, rfl, fun d n h => by subst h; cases hp⟩

theorem finishT_spec (rs : Replies) (w : WorldT) (d : Nat) (a : Option Nat) (hd : w.dataTls = true)
    (hc : w.base.conn = some { sock := some d, acc := a }) :
    SatT (finishTransferT rs) w (fun r _ evs => ∀ x, r = .ok x → ∃ post,
      evs = [EvT.dataTlsShutdown d, EvT.ev w.ctlTls (.dataShutdown d), EvT.ev w.ctlTls (.dataClose d)] ++ post ∧
      PostOK post) := by
  unfold finishTransferT dataDisconnectT
  apply SatT.bind
  apply SatT.bind
  apply SatT.getT
  dsimp only
  rw [if_pos hd, hc]
  dsimp only
  apply SatT.bind
  apply SatT.emitT
  dsimp only
  apply (lift_returns (dataDisconnect true) _).mono
  intro r1 w1 e1 h1
  cases r1 with
  | throw => intro x hx; cases hx
  | ok u =>
    obtain ⟨hr, _, he⟩ := h1 u rfl
    have htr := congrArg World.trace ((fun h => (Ftp.Client.SessL.dataDisconnect_sock true _ d a h).2.2 hr) hc)
    dsimp only
    apply SatT.bind
    apply ((q3_lift (allP_of_own (recvInto_own rs) fun e h => (npw_of_quiet e h).1) w1).and
      (lift_returns (recvInto rs) w1)).mono
    intro r2 w2 e2 ⟨⟨_, hq⟩, h2⟩
    cases r2 with
    | throw => intro x hx; cases hx
    | ok y =>
      obtain ⟨_, _, he2⟩ := h2 _ rfl
      obtain ⟨l, hl, _⟩ := Ftp.Client.SessL.recvInto_readLine rs (pl w1)
      apply SatT.pure
      intro x _
      refine ⟨(a.toList.map Ev.dataClose).map (EvT.ev w.ctlTls) ++ e2, ?_, ?_, ?_⟩
      · rw [he, htr]
        simp [pl, Ftp.Client.SessL.dropW]
      · intro e hm
        rcases List.mem_append.1 hm with hm | hm
        · obtain ⟨e0, h0, rfl⟩ := List.mem_map.1 hm
          obtain ⟨x, _, rfl⟩ := List.mem_map.1 h0
          exact ⟨_, _, rfl, fun _ _ h => by cases h⟩
        · exact q3_noWrite (hq e hm)
      · refine ⟨w1.ctlTls, List.mem_append_right _ ?_⟩
        rw [he2, hl]
        simp

theorem cleanupT_post (w : WorldT) :
    SatT cleanupT w (fun _ _ evs => (∀ e ∈ evs, ∃ t e0, e = EvT.ev t e0 ∧ ∀ d n, e0 ≠ Ev.dataWrite d n)) :=
  (cleanupT_q3 w).mono fun _ _ _ h e he => q3_noWrite (h.2 e he)

theorem lift_dataSend (t : TType) (w : WorldT) :
    SatT (lift (dataSend false t)) w (fun r w' evs => EvOnly evs ∧ w'.dataTls = w.dataTls ∧ w'.ctlTls = w.ctlTls ∧
      (∀ a, r = .ok a → w'.base.conn = w.base.conn)) := by
  apply SatT.lift
  refine ⟨evOnly_map _ _, rfl, rfl, fun a ha => ?_⟩
  rw [Lift.cut_ok ha]
  exact congrArg DescPart.conn (dataSend_own false t (pl w)).desc

/-- an upload that returns after a successful data handshake: what it appends is
    `pre ++ [close-notify on d, shutdown of d, close of d] ++ post` without any close-notify in `pre`, without payload
    writes in `post`, and with a control read in `post` -/
theorem uploadT_close_shape (verb : String) (path : Bytes) (w : WorldT) :
    SatT (uploadT verb path) w (fun r _ evs => ∀ rs, r = .ok rs → (∃ d o, EvT.dataTlsHandshake d o true ∈ evs) →
      ∃ pre post d t, evs = pre ++ [EvT.dataTlsShutdown d, EvT.ev t (.dataShutdown d), EvT.ev t (.dataClose d)] ++ post ∧
        NoTS pre ∧ PostOK post) := by
  unfold uploadT
  apply SatT.scopedT
  apply SatT.bind
  apply (lift_mkCmd_spec verb (some path) w).mono
  rintro r0 w0 e0 ⟨rfl, rfl⟩
  cases r0 with
  | throw =>
    apply (cleanupT_post w0).mono
    intro rc w2 e2 _ rs hr
    cases rc <;> cases hr
  | ok c =>
    dsimp only
    apply SatT.bind
    apply (createDataConnectionT_ok c Replies.empty w0).mono
    intro r1 w1 e1 ⟨_, hpost⟩
    obtain ⟨hts, hcase⟩ := createPost_state hpost
    cases r1 with
    | throw =>
      apply (cleanupT_post w1).mono
      intro rc w2 e2 _ rs hr
      cases rc <;> cases hr
    | ok x =>
      obtain ⟨ready, rs1⟩ := x
      dsimp only
      rcases hcase with hno | ⟨⟨rs', hrs'⟩, hdt, d, a, hconn⟩
      · -- no successful handshake: none anywhere in the call
        have hq2 : AllT Q2 (if ready = true then do
            let w ← getT
            lift (dataSend false w.base.ttype)
            finishTransferT rs1
          else pure rs1) := by
          split
          · exact allT_bind allT_getT fun _ => allT_bind (q2_lift _) fun _ => finishTransferT_q2 _
          · exact allT_pure _
        apply (hq2 w1).mono
        intro r2 w2 e2 ⟨_, he2⟩
        apply (cleanupT_q3 w2).mono
        intro rc w3 e3 ⟨_, he3⟩ rs _ ⟨d, o, hm⟩
        exfalso
        simp only [List.nil_append, List.mem_append] at hm
        rcases hm with (hm | hm) | hm
        · exact hno d o hm
        · exact absurd (he2 _ hm).2 (by simp [isHs])
        · exact absurd (q3_q2 (he3 _ hm)).2 (by simp [isHs])
      · -- the data connection is protected and open
        injection hrs' with hrs'
        injection hrs' with hready _
        subst hready
        simp only [if_true]
        apply SatT.bind
        apply SatT.getT
        dsimp only
        apply SatT.bind
        apply (lift_dataSend w1.base.ttype w1).mono
        intro r2 w2 e2 ⟨hev2, hdt2, _, hconn2⟩
        cases r2 with
        | throw =>
          apply (cleanupT_post w2).mono
          intro rc w3 e3 _ rs hr
          cases rc <;> cases hr
        | ok u =>
          dsimp only
          apply (finishT_spec rs1 w2 d a (hdt2.trans hdt) ((hconn2 u rfl).trans hconn)).mono
          intro r3 w3 e3 h3
          apply (cleanupT_post w3).mono
          intro rc w4 e4 h4 rs hr _
          cases r3 with
          | throw => cases rc <;> cases hr
          | ok y =>
            obtain ⟨post, hpost, hp1, hp2⟩ := h3 y rfl
            refine ⟨e1 ++ e2, post ++ e4, d, w2.ctlTls, ?_, noTS_append hts (evOnly_noTS hev2), ?_, ?_⟩
            · rw [hpost]; simp
            · intro e he
              rcases List.mem_append.1 he with h | h
              · exact hp1 e h
              · exact h4 e h
            · obtain ⟨t, ht⟩ := hp2
              exact ⟨t, List.mem_append_left _ ht⟩

end Ftp.ClientTls.X
