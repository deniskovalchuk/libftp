import Ftp.Model.Reader
import Ftp.Lemmas.Utils
/- the control-channel reader on arbitrary input: `recv` taken apart into its stages (`recv_eq`), and what every stage
   guarantees whatever the bytes are (`LineSpec`, `MultiSpec`, `RecvSpec`): it ends within its fuel, asks the transport at
   most once after the end of the stream, keeps the buffer within `maxLine`, and yields a code below 1000 -/
namespace Ftp.Reader

theorem maxLine_eq : maxLine = 8192 := rfl

theorem matchEol_bound : ∀ (b : Bytes) (n : Nat), matchEol b = some n → 0 < n ∧ n ≤ b.length
  | [], n, h => by simp [matchEol] at h
  | c :: t, n, h => by
    unfold matchEol at h
    split at h
    · simp at h; subst h; simp
    · split at h
      · split at h
        · split at h <;> (simp at h; subst h; simp)
        · simp at h; subst h; simp
      · split at h
        · rename_i m hm
          have := matchEol_bound t m hm
          simp at h; subst h; simp; omega
        · simp at h

theorem matchEol_append (t r : Bytes) (hc : CR ∉ t) (hl : LF ∉ t) :
    matchEol (t ++ r) = (matchEol r).map (t.length + ·) := by
  induction t with
  | nil => simp
  | cons c t ih =>
    simp only [List.mem_cons, not_or] at hc hl
    have h1 : c ≠ LF := fun h => hl.1 h.symm
    have h2 : c ≠ CR := fun h => hc.1 h.symm
    simp only [List.cons_append, matchEol, h1, h2, if_false, ih hc.2 hl.2]
    cases matchEol r <;> simp [Nat.add_assoc, Nat.add_comm]

theorem matchEol_none_T (s : Bytes) (h : ∀ b ∈ s, b ≠ CR ∧ b ≠ LF) : matchEol s = none := by
  simpa [matchEol] using matchEol_append s [] (fun hc => (h _ hc).1 rfl) (fun hl => (h _ hl).2 rfl)

/-- the number of bytes one delivery appends -/
def gotOf (buf : Bytes) (net : Net) : Nat :=
  min (match net.sizes with
        | [] => maxLine
        | k :: _ => if k = 0 then 1 else k) (maxLine - buf.length)

theorem gotOf_pos (buf : Bytes) (net : Net) (h : buf.length < maxLine) : 0 < gotOf buf net := by
  unfold gotOf
  split
  · omega
  · split <;> omega

theorem gotOf_le (buf : Bytes) (net : Net) : gotOf buf net ≤ maxLine - buf.length := by
  unfold gotOf; omega

theorem readLineF_succ (f : Nat) (buf : Bytes) (net : Net) :
    readLineF (f + 1) buf net =
      match matchEol buf with
      | some n => (.line (buf.take n), buf.drop n, net)
      | none =>
        if buf.length ≥ maxLine then (.tooLong, buf, net)
        else
          match net.stream with
          | [] => ((match net.fin with | .eof => .eof | .err => .err), buf,
                    { net with readsAtEnd := net.readsAtEnd + 1 })
          | _ :: _ =>
            readLineF f (buf ++ net.stream.take (gotOf buf net))
              { net with stream := net.stream.drop (gotOf buf net), sizes := net.sizes.tail } := by
  rfl

/-- the transport has moved on: same end, no more deliveries left than before -/
def Net.le (n' n : Net) : Prop := n'.fin = n.fin ∧ n'.sizes.length ≤ n.sizes.length

theorem Net.le.refl (n : Net) : Net.le n n := ⟨rfl, Nat.le_refl _⟩
theorem Net.le.trans {a b c : Net} (h1 : Net.le a b) (h2 : Net.le b c) : Net.le a c :=
  ⟨h1.1.trans h2.1, Nat.le_trans h1.2 h2.2⟩

/-- what one `readLineF` call with enough fuel guarantees, whatever the bytes -/
structure LineSpec (buf : Bytes) (net : Net) (r : LineR × Bytes × Net) : Prop where
  noFuel : r.1 ≠ .fuel
  reads : r.2.2.readsAtEnd ≤ net.readsAtEnd + 1
  atEnd : r.2.2.readsAtEnd = net.readsAtEnd + 1 → r.1 = .eof ∨ r.1 = .err
  line : ∀ l, r.1 = .line l → r.2.2.readsAtEnd = net.readsAtEnd ∧
    r.2.1.length + r.2.2.stream.length < buf.length + net.stream.length
  buf : buf.length ≤ maxLine → r.2.1.length ≤ maxLine
  net : Net.le r.2.2 net

theorem readLineF_spec_T : ∀ (f : Nat) (buf : Bytes) (net : Net), net.stream.length < f →
    LineSpec buf net (readLineF f buf net)
  | 0, _, _, h => by omega
  | f + 1, buf, net, hf => by
    rw [readLineF_succ]
    split
    · rename_i n hn
      have := matchEol_bound buf n hn
      exact { noFuel := by simp, reads := by simp, atEnd := by simp, net := Net.le.refl _
              line := fun l _ => ⟨rfl, by simp only [List.length_drop]; omega⟩
              buf := fun hb => by simp only [List.length_drop]; omega }
    · split
      · exact ⟨by simp, by simp, by simp, by simp, by simp, Net.le.refl _⟩
      · rename_i hlt
        split
        · exact { noFuel := by cases net.fin <;> simp, reads := by simp, buf := by simp, net := Net.le.refl _
                  atEnd := fun _ => by cases net.fin <;> simp
                  line := fun l => by cases net.fin <;> simp }
        · rename_i x xs hs
          have hpos := gotOf_pos buf net (by omega)
          have hle := gotOf_le buf net
          have ih := readLineF_spec_T f (buf ++ net.stream.take (gotOf buf net))
            { net with stream := net.stream.drop (gotOf buf net), sizes := net.sizes.tail }
            (by simp only [List.length_drop]; rw [hs] at hf ⊢; simp only [List.length_cons] at hf ⊢; omega)
          refine { ih with line := fun l hl => ?_, buf := fun hb => ih.buf ?_, net := ⟨ih.net.1, ?_⟩ }
          · have := ih.line l hl
            simp only [List.length_append, List.length_take, List.length_drop] at this
            exact ⟨this.1, by omega⟩
          · simp only [List.length_append, List.length_take]
            omega
          · have := ih.net.2
            simp only [List.length_tail] at this
            omega

theorem readLine_spec_T (buf : Bytes) (net : Net) : LineSpec buf net (readLine buf net) :=
  readLineF_spec_T _ buf net (by omega)

theorem readLine_lt {buf : Bytes} {net : Net} {l b' : Bytes} {n' : Net} (h : readLine buf net = (.line l, b', n')) :
    b'.length + n'.stream.length < buf.length + net.stream.length := by
  have := ((readLine_spec_T buf net).line l (by rw [h])).2
  rwa [h] at this

/-- what the multi-line loop guarantees with enough fuel -/
structure MultiSpec (buf : Bytes) (net : Net) (r : Option Bytes × Bool × Bytes × Net) : Prop where
  noFuel : r.2.1 = false
  reads : r.2.2.2.readsAtEnd ≤ net.readsAtEnd + 1
  atEnd : r.2.2.2.readsAtEnd = net.readsAtEnd + 1 → r.1 = none
  buf : buf.length ≤ maxLine → r.2.2.1.length ≤ maxLine
  net : Net.le r.2.2.2 net

theorem multiF_spec_T : ∀ (f code : Nat) (acc buf : Bytes) (net : Net),
    buf.length + net.stream.length < f → MultiSpec buf net (multiF f code acc buf net)
  | 0, _, _, _, _, h => by omega
  | f + 1, code, acc, buf, net, hf => by
    have hs := readLine_spec_T buf net
    unfold multiF
    generalize readLine buf net = r at hs
    obtain ⟨res, buf', net'⟩ := r
    cases res with
    | line l =>
      simp only
      obtain ⟨hr, hlt⟩ := hs.line l rfl
      simp only at hr hlt
      split
      · exact ⟨rfl, by simp only; omega, fun h => by simp only at h; omega, hs.buf, hs.net⟩
      · have ih := multiF_spec_T f code (acc ++ l) buf' net' (by omega)
        exact ⟨ih.noFuel, by have := ih.reads; omega, fun h => ih.atEnd (by omega), fun hb => ih.buf (hs.buf hb),
          ih.net.trans hs.net⟩
    | fuel => exact absurd rfl hs.noFuel
    | eof | err | tooLong => exact ⟨rfl, hs.reads, fun _ => rfl, hs.buf, hs.net⟩

theorem parseStatus_lt {l : Bytes} {code : Nat} (h : parseStatus l = some code) : code < 1000 := by
  unfold parseStatus at h
  split at h
  · cases h
  · obtain ⟨hd, rfl, _⟩ := parseBounded_some (max := 65535) (by decide) h
    have := decValue_lt_pow (l.take 3) (by simp only [isDigits, Bool.and_eq_true] at hd; exact hd.2)
    rwa [List.length_take, Nat.min_eq_left (by omega)] at this

/-- what a receive step guarantees, whatever the bytes, relative to the buffer and the transport it started from -/
structure RecvSpec (buf : Bytes) (net : Net) (r : RecvR × Ctl × Net) : Prop where
  noFuel : r.1 ≠ .fuel
  reads : r.2.2.readsAtEnd ≤ net.readsAtEnd + 1
  atEnd : r.2.2.readsAtEnd = net.readsAtEnd + 1 → r.1 = .error
  buf : buf.length ≤ maxLine → r.2.1.buf.length ≤ maxLine
  code : ∀ code text, r.1 = .reply code text → code < 1000
  net : Net.le r.2.2 net

/-- a step that began by reading a line (which does not touch the end of the stream) -/
theorem RecvSpec.of_line {buf buf1 : Bytes} {net net1 : Net} {r : RecvR × Ctl × Net}
    (hr : net1.readsAtEnd = net.readsAtEnd) (hb : buf.length ≤ maxLine → buf1.length ≤ maxLine) (hn : Net.le net1 net)
    (h : RecvSpec buf1 net1 r) : RecvSpec buf net r :=
  ⟨h.noFuel, hr ▸ h.reads, hr ▸ h.atEnd, fun x => h.buf (hb x), h.code, h.net.trans hn⟩

/-- the last step of `recv`: turn the outcome of the body into the result -/
def recvFin (c : Ctl) (code : Nat) (body : Option Bytes × Bool × Bytes × Net) : RecvR × Ctl × Net :=
  match body with
  | (some status, false, buf2, net2) =>
    (.reply code (stripEol status),
     { buf := buf2, skipLf := status.getLast? = some CR, closed := c.closed || code == 421 }, net2)
  | (_, true, buf2, net2) => (.fuel, { c with buf := buf2, skipLf := false }, net2)
  | (none, false, buf2, net2) => (.error, { c with buf := buf2, skipLf := false }, net2)

/-- the part of `recv` after the first line has been determined -/
def recvTail (c : Ctl) (l buf1 : Bytes) (net1 : Net) : RecvR × Ctl × Net :=
  match parseStatus l with
  | none => (.error, { c with buf := buf1, skipLf := false }, net1)
  | some code =>
    recvFin c code
      (if l.length > 3 && l.getD 3 0 == 45 then multiF (buf1.length + net1.stream.length + 1) code l buf1 net1
       else (some l, false, buf1, net1))

theorem recvFin_spec (c : Ctl) (code : Nat) (hc : code < 1000) (buf1 : Bytes) (net1 : Net)
    (body : Option Bytes × Bool × Bytes × Net) (hm : MultiSpec buf1 net1 body) :
    RecvSpec buf1 net1 (recvFin c code body) := by
  obtain ⟨o, b, buf2, net2⟩ := body
  obtain ⟨m1, m2, m3, m4, m5⟩ := hm
  simp only at m1 m2 m3 m4 m5
  subst m1
  cases o with
  | none => exact ⟨by simp [recvFin], m2, fun _ => rfl, m4, by simp [recvFin], m5⟩
  | some st =>
    refine ⟨by simp [recvFin], m2, fun h => by simpa using m3 h, m4, ?_, m5⟩
    intro code' text h
    simp only [recvFin, RecvR.reply.injEq] at h
    exact h.1 ▸ hc

theorem recvTail_spec (c : Ctl) (l buf1 : Bytes) (net1 : Net) : RecvSpec buf1 net1 (recvTail c l buf1 net1) := by
  unfold recvTail
  split
  · exact ⟨by simp, by simp, by simp, by simp, by simp, Net.le.refl _⟩
  · rename_i code hps
    apply recvFin_spec c code (parseStatus_lt hps)
    split
    · exact multiF_spec_T _ code l buf1 net1 (by omega)
    · exact ⟨rfl, by simp, by simp, by simp, Net.le.refl _⟩

/-- the part of `recv` after the (possibly repeated) first `readLine` -/
def recvFirst (c : Ctl) (first : LineR × Bytes × Net) : RecvR × Ctl × Net :=
  match first with
  | (.line l, buf1, net1) => recvTail c l buf1 net1
  | (.fuel, buf1, net1) => (.fuel, { c with buf := buf1, skipLf := false }, net1)
  | (_, buf1, net1) => (.error, { c with buf := buf1, skipLf := false }, net1)

theorem recv_eq (c : Ctl) (net : Net) :
    recv c net =
      match readLine c.buf net with
      | (.line l0, buf0, net0) =>
        recvFirst c (if c.skipLf && l0 == [LF] then readLine buf0 net0 else (.line l0, buf0, net0))
      | (.fuel, buf0, net0) => (.fuel, { c with buf := buf0 }, net0)
      | (_, buf0, net0) => (.error, { c with buf := buf0 }, net0) := by
  rfl

theorem recvFirst_spec (c : Ctl) (buf : Bytes) (net : Net) (first : LineR × Bytes × Net)
    (hs : LineSpec buf net first) : RecvSpec buf net (recvFirst c first) := by
  obtain ⟨res, buf1, net1⟩ := first
  cases res with
  | line l => exact (recvTail_spec c l buf1 net1).of_line (hs.line l rfl).1 hs.buf hs.net
  | fuel => exact absurd rfl hs.noFuel
  | eof | err | tooLong =>
    exact ⟨by simp [recvFirst], hs.reads, fun _ => rfl, hs.buf, by simp [recvFirst], hs.net⟩

theorem recv_spec (c : Ctl) (net : Net) : RecvSpec c.buf net (recv c net) := by
  have hs := readLine_spec_T c.buf net
  rw [recv_eq]
  generalize readLine c.buf net = r at hs
  obtain ⟨res, buf0, net0⟩ := r
  cases res with
  | line l0 =>
    simp only
    split
    · exact (recvFirst_spec c buf0 net0 _ (readLine_spec_T buf0 net0)).of_line (hs.line l0 rfl).1 hs.buf hs.net
    · exact recvFirst_spec c c.buf net _ hs
  | fuel => exact absurd rfl hs.noFuel
  | eof | err | tooLong => exact ⟨by simp, hs.reads, fun _ => rfl, hs.buf, by simp, hs.net⟩

theorem recv_code_lt {c : Ctl} {net : Net} {code : Nat} {text : Bytes} (h : (recv c net).1 = .reply code text) :
    code < 1000 :=
  (recv_spec c net).code code text h

theorem readLineF_long : ∀ (f : Nat) (buf : Bytes) (net : Net), net.stream.length < f →
    buf.length ≤ maxLine → maxLine ≤ (buf ++ net.stream).length →
    (∀ b ∈ (buf ++ net.stream).take maxLine, b ≠ CR ∧ b ≠ LF) →
    (readLineF f buf net).1 = .tooLong ∧ (readLineF f buf net).2.1 = (buf ++ net.stream).take maxLine
  | 0, _, _, h, _, _, _ => by omega
  | f + 1, buf, net, hf, hb, hlen, hno => by
    have htake : (buf ++ net.stream).take maxLine = buf ++ net.stream.take (maxLine - buf.length) := by
      rw [List.take_append, List.take_of_length_le hb]
    have hnone : matchEol buf = none := by
      apply matchEol_none_T
      intro b hbm
      apply hno
      rw [htake]
      exact List.mem_append_left _ hbm
    rw [readLineF_succ, hnone]
    simp only
    split
    · rename_i hge
      have : maxLine - buf.length = 0 := by omega
      rw [htake, this]
      simp
    · rename_i hlt
      simp only [List.length_append] at hlen
      split
      · rename_i hs
        rw [hs] at hlen
        simp only [List.length_nil] at hlen
        omega
      · rename_i x xs hs
        have hpos := gotOf_pos buf net (by omega)
        have hle := gotOf_le buf net
        have happ : buf ++ List.take (gotOf buf net) net.stream ++ List.drop (gotOf buf net) net.stream
            = buf ++ net.stream := by
          rw [List.append_assoc, List.take_append_drop]
        have ih := readLineF_long f (buf ++ net.stream.take (gotOf buf net))
          { net with stream := net.stream.drop (gotOf buf net), sizes := net.sizes.tail }
          (by simp only [List.length_drop]; rw [hs] at hf ⊢; simp only [List.length_cons] at hf ⊢; omega)
          (by simp only [List.length_append, List.length_take]; omega)
          (by simp only; rw [happ]; simp only [List.length_append]; exact hlen)
          (by simp only; rw [happ]; exact hno)
        simp only [happ] at ih
        exact ih

end Ftp.Reader
