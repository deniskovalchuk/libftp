import Ftp.Spec.RefAutomaton
import Ftp.Lemmas.ReaderTotal
import Ftp.Lemmas.ClientPrim
/-
  The control channel of `Ftp.Client` in the framed view - lines written, replies framed (`Ext`) - with no hypothesis on
  the server.  A run that returned has performed control steps (`Steps`), and every program steps of its own shape
  (`*_steps`, `run_steps`): what it wrote and received (`Steps.ext`), the commands of the reference automaton
  (`ClientRef`, C10) and the replies it consumed (`ClientDialog`, C02) are read off the steps.  What a call keeps whether
  it returns or not (`run_rt`: only clean lines are written; `run_cfg`: the settings stay) comes from the walks of
  `Ftp.Client.Walk`.
-/
namespace Ftp.Client.CtlL
open Ftp.Session Ftp.Endpoint Ftp.Client.Walk Ftp.Client.SessL

theorem pure_bind_M {α β} (a : α) (f : α → M β) : (Pure.pure a >>= f) = f a := rfl

/-! ### the framed view of the successful paths -/

theorem silent_of_P0 {evs : List Ev} (h : ∀ e ∈ evs, P0 e) : writes evs = [] ∧ received evs = [] :=
  ⟨writes_eq_nil _ fun _ he _ hb => (by subst hb; exact nomatch (h _ he)),
    received_eq_nil _ fun _ he _ _ hb => (by subst hb; exact nomatch (h _ he))⟩

/-- from `w` to `w'` the trace grew by events whose control writes are `ws` and whose framed replies are `rs` -/
def Ext (w w' : World) (ws : List Bytes) (rs : List Reply) : Prop :=
  ∃ evs, w'.trace = w.trace ++ evs ∧ writes evs = ws ∧ received evs = rs

theorem Ext.refl (w : World) : Ext w w [] [] := ⟨[], by simp, rfl, rfl⟩

theorem Ext.trans {a b c : World} {ws ws' : List Bytes} {rs rs' : List Reply} (h1 : Ext a b ws rs)
    (h2 : Ext b c ws' rs') : Ext a c (ws ++ ws') (rs ++ rs') := by
  obtain ⟨e1, t1, a1, b1⟩ := h1
  obtain ⟨e2, t2, a2, b2⟩ := h2
  exact ⟨e1 ++ e2, by rw [t2, t1, List.append_assoc], by rw [writes_append, a1, a2], by rw [received_append, b1, b2]⟩

theorem Ext.of_own {σ α} {π : World → σ} {P : Ev → Prop} (hp : ∀ e, P e → P0 e) {m : M α} (k : Keeps (Own π P) m)
    {w w' : World} {r : Res α} (h : m w = (r, w')) : Ext w w' [] [] := by
  obtain ⟨_, evs, t, p⟩ := k.of_eq h
  exact ⟨evs, t, silent_of_P0 fun e he => hp e (p e he)⟩

theorem Ext.added {α} {m : M α} {w : World} {ws : List Bytes} {rs : List Reply} (h : Ext w (after m w) ws rs) :
    writes (added m w) = ws ∧ received (added m w) = rs := by
  obtain ⟨evs, t, a, b⟩ := h
  unfold Session.added
  rw [t, List.drop_left]
  exact ⟨a, b⟩

theorem silent_obs (f : Nat → Ev) (hw : ∀ o b, f o ≠ .ctlWrite b) (hr : ∀ o c t, f o ≠ .ctlReply c t) (l : List Nat) :
    writes (l.map f) = [] ∧ received (l.map f) = [] :=
  ⟨writes_eq_nil _ fun e he b => by obtain ⟨o, _, rfl⟩ := List.mem_map.mp he; exact hw o b,
   received_eq_nil _ fun e he c t => by obtain ⟨o, _, rfl⟩ := List.mem_map.mp he; exact hr o c t⟩

theorem ctlSend_ext {cmd : Bytes} {w w' : World} {u : Unit} (h : ctlSend cmd w = (.ok u, w')) :
    Ext w w' [cmd ++ CRLF] [] := by
  obtain ⟨_, rfl⟩ := ctlSend_ok_iff.mp h
  have ho := silent_obs (fun o => Ev.obsRequest o cmd) (fun _ _ h => nomatch h) (fun _ _ _ h => nomatch h) w.observers
  exact ⟨_, List.append_assoc .., by rw [writes_append, ho.1]; rfl, by rw [received_append, ho.2]; rfl⟩

theorem ctlRecv_ext {w w' : World} {r : Reply} (h : ctlRecv w = (.ok r, w')) : Ext w w' [] [r] ∧ r.code < 1000 := by
  obtain ⟨_, hr, rfl⟩ := ctlRecv_ok_iff.mp h
  have ho := silent_obs (fun o => Ev.obsReply o r.code r.text) (fun _ _ h => nomatch h) (fun _ _ _ h => nomatch h)
    w.observers
  refine ⟨⟨_, gotW_trace .., ?_, ?_⟩, Reader.recv_code_lt hr⟩ <;>
    simp only [replyEvs, writes_append, received_append, ho.1, ho.2] <;> split <;> rfl

theorem recvInto_ext {rs rs' : Replies} {w w' : World} {r : Reply} (h : recvInto rs w = (.ok (r, rs'), w')) :
    rs' = rs.append r ∧ Ext w w' [] [r] ∧ r.code < 1000 :=
  ⟨(recvInto_ok_iff.mp h).2, ctlRecv_ext (recvInto_ok_iff.mp h).1⟩

theorem processCommand_ext {cmd : Bytes} {w w' : World} {r : Reply} (h : processCommand cmd w = (.ok r, w')) :
    Ext w w' [cmd ++ CRLF] [r] ∧ r.code < 1000 := by
  obtain ⟨hc, h2⟩ := processCommand_ok_iff.mp h
  exact ⟨(ctlSend_ext (ctlSend_conn cmd w hc)).trans (ctlRecv_ext h2).1, (ctlRecv_ext h2).2⟩

theorem processCommandInto_ext {cmd : Bytes} {rs rs' : Replies} {w w' : World} {r : Reply}
    (h : processCommandInto cmd rs w = (.ok (r, rs'), w')) :
    rs' = rs.append r ∧ Ext w w' [cmd ++ CRLF] [r] ∧ r.code < 1000 := by
  obtain ⟨hc, h2, e⟩ := processCommandInto_ok_iff.mp h
  exact ⟨e, (ctlSend_ext (ctlSend_conn cmd w hc)).trans (ctlRecv_ext h2).1, (ctlRecv_ext h2).2⟩

theorem neg_eq {r : Reply} (h : r.code < 1000) : r.isNegative = Spec.negative r.code := by
  have : r.code ≠ unspecified := by unfold unspecified; omega
  simp [Reply.isNegative, Spec.negative, this]

theorem makeCommand_line (v : String) (a : Option Bytes) (c : Bytes) (h : makeCommand (str v) a = some c) :
    c = Spec.line v a := by
  cases a with
  | none => simp [makeCommand] at h; simp [Spec.line, h]
  | some x =>
    simp only [makeCommand] at h
    split at h
    · cases h
    · simp only [Option.some.injEq] at h; simp [Spec.line, ← h]

theorem typeCommand_line (s : Spec.Settings) (t : TType) (hs : s.asciiType = (t == .ascii)) :
    typeCommand t = Spec.typeLine s := by
  unfold Spec.typeLine typeCommand
  cases t <;> simp_all

theorem getLast_append_reply (rs : Replies) (r : Reply) : (rs.append r).list.getLast? = some r := by
  simp

/-! ### the control dialogue of a run that returned -/

inductive Act
  | send (c : Bytes)
  | recv (r : Reply)

def sends : List Act → List Bytes
  | [] => []
  | .send c :: as => (c ++ CRLF) :: sends as
  | .recv _ :: as => sends as

def recvs : List Act → List Reply
  | [] => []
  | .send _ :: as => recvs as
  | .recv r :: as => r :: recvs as

theorem sends_append (as bs : List Act) : sends (as ++ bs) = sends as ++ sends bs := by
  induction as with
  | nil => rfl
  | cons a as ih => cases a <;> simp [sends, ih]

theorem recvs_append (as bs : List Act) : recvs (as ++ bs) = recvs as ++ recvs bs := by
  induction as with
  | nil => rfl
  | cons a as ih => cases a <;> simp [recvs, ih]

/-- a step the framed view does not see: the reader's state, the unread bytes and the script are left alone, neither
    a command nor a reply is added -/
def Quiet (w w' : World) : Prop := w'.ctl = w.ctl ∧ w'.net = w.net ∧ w'.script = w.script ∧ Ext w w' [] []

namespace Quiet

theorem of_dat {w w' : World} (h : Rdat w w') : Quiet w w' := by
  obtain ⟨evs, t, p⟩ := h.2
  exact ⟨h.ctl, h.net, h.script, evs, t, silent_of_P0 fun e he => by have := p e he; cases e <;> first | rfl | cases this⟩

theorem of_desc {α} {m : M α} (k : Keeps DescStep m) {w w' : World} {r : Res α} (h : m w = (r, w')) : Quiet w w' :=
  of_dat (.of_desc (k.of_eq h))

theorem of_mod {f : World → World} {w w' : World} {u : Unit} (h : modifyW f w = (.ok u, w')) (h1 : (f w).ctl = w.ctl)
    (h2 : (f w).net = w.net) (h3 : (f w).script = w.script) (h4 : (f w).trace = w.trace) : Quiet w w' := by
  obtain rfl := modifyW_ok.mp h
  exact ⟨h1, h2, h3, [], by simp [h4], rfl, rfl⟩

theorem of_close {w w' : World} {u : Unit} (h : ctlClose w = (.ok u, w')) : Quiet w w' := by
  rw [DataL.ctlClose_run] at h
  obtain ⟨_, rfl⟩ := Prod.mk.inj h
  exact ⟨rfl, rfl, rfl, [.ctlShutdown, .ctlClose], by simp, rfl, rfl⟩

end Quiet

/-- `w'` is reached from `w` by the successful control steps `as` - a command written, a reply framed - in this order,
    with steps in between that the framed view does not see.  What was written and received (`Steps.ext`) and, against
    a well-formed script, which replies were consumed (`Steps.st`) depend on the sequence only, whatever the
    interleaving of commands and replies. -/
inductive Steps : World → List Act → World → Prop
  | nil (w : World) : Steps w [] w
  | quiet {w w1 w' : World} {as : List Act} : Quiet w w1 → Steps w1 as w' → Steps w as w'
  | send {w w' : World} {as : List Act} (c : Bytes) : w.connected = true → Steps (sendW c w) as w' →
      Steps w (.send c :: as) w'
  | recv {w w1 w' : World} {as : List Act} {r : Reply} : ctlRecv w = (.ok r, w1) → Steps w1 as w' →
      Steps w (.recv r :: as) w'

namespace Steps
variable {w w1 w' : World} {as bs : List Act}

theorem trans (h1 : Steps w as w1) (h2 : Steps w1 bs w') : Steps w (as ++ bs) w' := by
  induction h1 with
  | nil => exact h2
  | quiet hd _ ih => exact .quiet hd (ih h2)
  | send c hc _ ih => exact .send c hc (ih h2)
  | recv hr _ ih => exact .recv hr (ih h2)

theorem of_quiet (h : Quiet w w') : Steps w [] w' := .quiet h (.nil _)

theorem of_desc {α} {m : M α} (k : Keeps DescStep m) {r : Res α} (h : m w = (r, w')) : Steps w [] w' :=
  of_quiet (.of_desc k h)

theorem of_move {α} {m : M α} (k : Keeps MoveStep m) {r : Res α} (h : m w = (r, w')) : Steps w [] w' :=
  of_quiet (.of_dat (.of_move (k.of_eq h)))

theorem of_recv {r : Reply} (h : ctlRecv w = (.ok r, w')) : Steps w [.recv r] w' := .recv h (.nil _)

theorem recvInto {rs rs' : Replies} {r : Reply} (h : recvInto rs w = (.ok (r, rs'), w')) :
    rs' = rs.append r ∧ Steps w [.recv r] w' :=
  ⟨(recvInto_ok_iff.mp h).2, of_recv (recvInto_ok_iff.mp h).1⟩

theorem turn {c : Bytes} {rs rs' : Replies} {r : Reply} (h : processCommandInto c rs w = (.ok (r, rs'), w')) :
    rs' = rs.append r ∧ Steps w [.send c, .recv r] w' := by
  obtain ⟨hc, h2, rfl⟩ := processCommandInto_ok_iff.mp h
  exact ⟨rfl, .send c hc (of_recv h2)⟩

theorem cmd {c : Bytes} {r : Reply} (h : processCommand c w = (.ok r, w')) : Steps w [.send c, .recv r] w' :=
  .send c (processCommand_ok_iff.mp h).1 (of_recv (processCommand_ok_iff.mp h).2)

theorem ext (h : Steps w as w') : Ext w w' (sends as) (recvs as) := by
  induction h with
  | nil w => exact Ext.refl w
  | quiet hd _ ih => simpa using hd.2.2.2.trans ih
  | send c hc _ ih => simpa [sends, recvs] using (ctlSend_ext (ctlSend_conn c _ hc)).trans ih
  | recv hr _ ih => simpa [sends, recvs] using (ctlRecv_ext hr).1.trans ih

theorem lt (h : Steps w as w') : ∀ r ∈ recvs as, r.code < 1000 := by
  induction h with
  | nil w => intro r hr; cases hr
  | quiet hd _ ih => exact ih
  | send c hc _ ih => exact ih
  | recv hr _ ih =>
    intro r h
    rcases List.mem_cons.mp h with rfl | h
    · exact (ctlRecv_ext hr).2
    · exact ih r h

end Steps

/-! ### which steps the programs perform -/

theorem mkCmd_line {v : String} {a : Option Bytes} {c : Bytes} {w w' : World} (h : mkCmd v a w = (.ok c, w')) :
    c = Spec.line v a ∧ w' = w :=
  ⟨makeCommand_line _ _ _ (mkCmd_ok h).1, (mkCmd_ok h).2⟩

theorem simple_steps {v : String} {a : Option Bytes} {w w' : World} {r : Reply} (h : simple v a w = (.ok r, w')) :
    Steps w [.send (Spec.line v a), .recv r] w' := by
  unfold simple at h
  simp only [bind_ok] at h
  obtain ⟨c, w0, hc, h⟩ := h
  obtain ⟨rfl, rfl⟩ := mkCmd_line hc
  exact Steps.cmd h

theorem setTransferType_steps {t : TType} {w w' : World} {r : Reply} (h : setTransferType t w = (.ok r, w')) :
    Steps w [.send (typeCommand t), .recv r] w' := by
  unfold setTransferType at h
  simp only [bind_ok, ite_ok, pure_ok] at h
  obtain ⟨r1, w1, h1, ⟨_, _, _, h2, rfl, rfl⟩ | ⟨_, rfl, rfl⟩⟩ := h
  · simpa using (Steps.cmd h1).trans (.of_quiet (.of_mod h2 rfl rfl rfl rfl))
  · exact Steps.cmd h1

/-- the control dialogue of `rename`: RNTO only after 350 -/
def RenameActs (a b : Bytes) (as : List Act) : Prop :=
  ∃ r1, (r1.code ≠ 350 ∧ as = [.send (Spec.line "RNFR" (some a)), .recv r1]) ∨
    (r1.code = 350 ∧ ∃ r2, as = [.send (Spec.line "RNFR" (some a)), .recv r1, .send (Spec.line "RNTO" (some b)), .recv r2])

theorem rename_steps {a b : Bytes} {w w' : World} {rs : Replies} (h : rename a b w = (.ok rs, w')) :
    ∃ as, Steps w as w' ∧ rs.list = recvs as ∧ RenameActs a b as := by
  unfold rename at h
  simp only [bind_ok, Prod.exists, ite_ok, pure_ok] at h
  obtain ⟨c1, wa, hc1, c2, wb, hc2, r1, rs1, w1, h1, h⟩ := h
  obtain ⟨rfl, rfl⟩ := mkCmd_line hc1
  obtain ⟨rfl, rfl⟩ := mkCmd_line hc2
  obtain ⟨rfl, s1⟩ := Steps.turn h1
  obtain ⟨h350, r2, rs2, w2, h2, rfl, rfl⟩ | ⟨h350, rfl, rfl⟩ := h
  · obtain ⟨rfl, s2⟩ := Steps.turn h2
    exact ⟨_, s1.trans s2, by simp [recvs, Replies.empty], r1, .inr ⟨by simpa using h350, r2, rfl⟩⟩
  · exact ⟨_, s1, by simp [recvs, Replies.empty], r1, .inl ⟨by simpa using h350, rfl⟩⟩

def DisconnectActs (g : Bool) (as : List Act) : Prop :=
  if g then ∃ r, as = [.send (Spec.line "QUIT" none), .recv r] else as = []

theorem disconnect_steps {g : Bool} {w w' : World} {o : Option Reply} (h : disconnect g w = (.ok o, w')) :
    ∃ as, Steps w as w' ∧ (Out.opt o).replyList = recvs as ∧ DisconnectActs g as := by
  unfold disconnect at h
  rw [ite_bind_ok] at h
  obtain ⟨a, w1, hq, h⟩ := h
  simp only [bind_ok, getW_ok, ite_ok, pure_ok] at h
  obtain ⟨_, w2, ⟨rfl, rfl⟩, h⟩ := h
  obtain ⟨rfl, s⟩ : a = o ∧ Steps w2 [] w' := by
    obtain ⟨_, _, _, h2, rfl, rfl⟩ | ⟨_, rfl, rfl⟩ := h
    · exact ⟨rfl, .of_quiet (.of_close h2)⟩
    · exact ⟨rfl, .nil _⟩
  cases g
  · simp only [Bool.false_eq_true, if_false, pure_ok] at hq
    obtain ⟨rfl, rfl⟩ := hq
    exact ⟨[], s, rfl, rfl⟩
  · simp only [if_true, bind_ok, pure_ok] at hq
    obtain ⟨c, w0, hc, r, w2, h2, rfl, rfl⟩ := hq
    obtain ⟨rfl, rfl⟩ := mkCmd_line hc
    exact ⟨_, by simpa using (Steps.cmd h2).trans s, rfl, r, rfl⟩

/-- the control dialogue of a login: PASS only after 331, TYPE unless the last reply was negative -/
inductive LoginActs (u p : Bytes) (t : TType) : List Act → Prop
  | user (r1 : Reply) : r1.code ≠ 331 → r1.isNegative = true →
      LoginActs u p t [.send (Spec.line "USER" (some u)), .recv r1]
  | userType (r1 r3 : Reply) : r1.code ≠ 331 → r1.isNegative = false →
      LoginActs u p t [.send (Spec.line "USER" (some u)), .recv r1, .send (typeCommand t), .recv r3]
  | pass (r1 r2 : Reply) : r1.code = 331 → r2.isNegative = true →
      LoginActs u p t [.send (Spec.line "USER" (some u)), .recv r1, .send (Spec.line "PASS" (some p)), .recv r2]
  | passType (r1 r2 r3 : Reply) : r1.code = 331 → r2.isNegative = false →
      LoginActs u p t [.send (Spec.line "USER" (some u)), .recv r1, .send (Spec.line "PASS" (some p)), .recv r2,
        .send (typeCommand t), .recv r3]

theorem processLogin_steps {u p : Bytes} {rs rs' : Replies} {w w' : World} {r : Reply}
    (h : processLogin u p rs w = (.ok (r, rs'), w')) :
    ∃ as, Steps w as w' ∧ rs'.list = rs.list ++ recvs as ∧ LoginActs u p w.ttype as := by
  unfold processLogin at h
  simp only [bind_ok, Prod.exists, ite_ok, pure_ok, getW_ok, Prod.mk.injEq] at h
  obtain ⟨cu, wa, hcu, cp, wb, hcp, r1, rs1, w1, h1, h⟩ := h
  obtain ⟨rfl, rfl⟩ := mkCmd_line hcu
  obtain ⟨rfl, rfl⟩ := mkCmd_line hcp
  obtain ⟨rfl, s1⟩ := Steps.turn h1
  have t1 := ((processCommandInto_step _ _).of_eq h1).ttype
  -- PASS only after 331; then TYPE unless the last reply `r2` was negative
  obtain ⟨h331, r2, rs2, w2, h2, h⟩ | ⟨h331, _, _, _, ⟨⟨rfl, rfl⟩, rfl⟩, h⟩ := h
  · obtain ⟨rfl, s2⟩ := Steps.turn h2
    have t2 := ((processCommandInto_step _ _).of_eq h2).ttype.trans t1
    obtain ⟨hn, ⟨rfl, rfl⟩, rfl⟩ | ⟨hn, _, _, ⟨rfl, rfl⟩, h3⟩ := h
    · exact ⟨_, s1.trans s2, by simp [recvs], .pass r1 r2 (by simpa using h331) hn⟩
    · obtain ⟨rfl, s3⟩ := Steps.turn h3
      exact ⟨_, (s1.trans s2).trans s3, by simp [recvs],
        t2 ▸ .passType r1 r2 r (by simpa using h331) (by simpa using hn)⟩
  · obtain ⟨hn, ⟨rfl, rfl⟩, rfl⟩ | ⟨hn, _, _, ⟨rfl, rfl⟩, h3⟩ := h
    · exact ⟨_, s1, by simp [recvs], .user r1 (by simpa using h331) hn⟩
    · obtain ⟨rfl, s3⟩ := Steps.turn h3
      exact ⟨_, s1.trans s3, by simp [recvs], t1 ▸ .userType r1 r (by simpa using h331) (by simpa using hn)⟩

theorem login_steps {u p : Bytes} {w w' : World} {rs : Replies} (h : login u p w = (.ok rs, w')) :
    ∃ as, Steps w as w' ∧ rs.list = recvs as ∧ LoginActs u p w.ttype as := by
  unfold login at h
  simp only [bind_ok, pure_ok] at h
  obtain ⟨⟨r, rs1⟩, w1, h1, rfl, rfl⟩ := h
  obtain ⟨as, s, hl, sh⟩ := processLogin_steps h1
  exact ⟨as, s, by simpa [Replies.empty] using hl, sh⟩

/-- the greeting: one reply `g`, preceded by another one if that was 120 -/
def GreetActs (g : Reply) (as : List Act) : Prop :=
  (as = [.recv g] ∧ g.code ≠ 120) ∨ ∃ g0, as = [.recv g0, .recv g] ∧ g0.code = 120

/-- the control dialogue of `connect` after the connection has been opened: the greeting, and the login unless the
    greeting was negative -/
def ConnectActs (cred : Option (Bytes × Bytes)) (t : TType) (as : List Act) : Prop :=
  ∃ g ga la, as = ga ++ la ∧ GreetActs g ga ∧
    (((g.isNegative = true ∨ cred = none) ∧ la = []) ∨
      (g.isNegative = false ∧ ∃ u p, cred = some (u, p) ∧ LoginActs u p t la))

theorem connectCheck_ok {cred : Option (Bytes × Bytes)} {w w' : World} {u : Unit}
    (h : connectCheck cred w = (.ok u, w')) : w' = w := by
  unfold connectCheck at h
  rcases cred with _ | ⟨a, b⟩
  · simp only [pure_ok] at h; exact h.2.symm
  · simp only [bind_ok, pure_ok] at h
    obtain ⟨_, _, h1, _, _, h2, _, rfl⟩ := h
    rw [(mkCmd_ok h2).2, (mkCmd_ok h1).2]

theorem connect_ok {h : Bytes} {p : Nat} {cred : Option (Bytes × Bytes)} {w w' : World} {rs : Replies}
    (hc : connect h p cred w = (.ok rs, w')) :
    ∃ x w2, greet (openW h p w) = (.ok x, w2) ∧ afterGreeting cred x w2 = (.ok rs, w') := by
  rw [connect_eq] at hc
  simp only [bind_ok] at hc
  obtain ⟨_, w0, h0, _, w1, h1, x, w2, hg, ht⟩ := hc
  obtain rfl := connectCheck_ok h0
  rw [reopen_run] at h1
  obtain ⟨_, rfl⟩ := Prod.mk.inj h1
  exact ⟨x, w2, hg, ht⟩

theorem greet_steps {w w' : World} {g : Reply} {rs : Replies} (h : greet w = (.ok (g, rs), w')) :
    ∃ ga, Steps w ga w' ∧ rs.list = recvs ga ∧ GreetActs g ga ∧ w'.ttype = w.ttype := by
  unfold greet at h
  simp only [bind_ok, Prod.exists, ite_ok, pure_ok, Prod.mk.injEq] at h
  obtain ⟨r1, rs1, wa, ha, h⟩ := h
  obtain ⟨rfl, sa⟩ := Steps.recvInto ha
  have ta : wa.ttype = w.ttype := ((recvInto_step _).of_eq ha).ttype
  obtain ⟨h120, h⟩ | ⟨h120, ⟨rfl, rfl⟩, rfl⟩ := h
  · obtain ⟨rfl, sb⟩ := Steps.recvInto h
    exact ⟨_, sa.trans sb, by simp [recvs, Replies.empty], .inr ⟨r1, rfl, by simpa using h120⟩,
      (((recvInto_step _).of_eq h).ttype).trans ta⟩
  · exact ⟨_, sa, by simp [recvs, Replies.empty], .inl ⟨rfl, by simpa using h120⟩, ta⟩

theorem connect_steps {h : Bytes} {p : Nat} {cred : Option (Bytes × Bytes)} {w w' : World} {rs : Replies}
    (hc : connect h p cred w = (.ok rs, w')) :
    ∃ as, Steps (openW h p w) as w' ∧ rs.list = recvs as ∧ ConnectActs cred w.ttype as := by
  obtain ⟨⟨g, rsg⟩, w2, hg, ht⟩ := connect_ok hc
  obtain ⟨ga, sg, hlg, shg, tg⟩ := greet_steps hg
  have tg : w2.ttype = w.ttype := tg
  unfold afterGreeting at ht
  simp only [ite_ok, pure_ok] at ht
  obtain ⟨hneg, rfl, rfl⟩ | ⟨hneg, ht⟩ := ht
  · exact ⟨ga, sg, hlg, g, ga, [], by simp, shg, .inl ⟨.inl hneg, rfl⟩⟩
  · rcases cred with _ | ⟨u, pw⟩
    · simp only [pure_ok] at ht
      obtain ⟨rfl, rfl⟩ := ht
      exact ⟨ga, sg, hlg, g, ga, [], by simp, shg, .inl ⟨.inr rfl, rfl⟩⟩
    · simp only [bind_ok, pure_ok] at ht
      obtain ⟨⟨r3, rs3⟩, w3, h3, rfl, rfl⟩ := ht
      obtain ⟨la, sl, hll, shl⟩ := processLogin_steps h3
      exact ⟨ga ++ la, sg.trans sl, by rw [hll, hlg, recvs_append], g, ga, la, rfl, shg,
        .inr ⟨by simpa using hneg, u, pw, rfl, tg ▸ shl⟩⟩

/-! #### the set-up of the data connection -/

/-- the control dialogue of the set-up: the set-up command is refused, or it is accepted and the transfer command
    sent; `ready` = the transfer command was accepted -/
def CdcActs (setup cmd : Bytes) (ready : Bool) (as : List Act) : Prop :=
  (∃ r1, as = [.send setup, .recv r1] ∧ r1.isNegative = true ∧ ready = false) ∨
  (∃ r1 r2, as = [.send setup, .recv r1, .send cmd, .recv r2] ∧ r1.isNegative = false ∧ ready = !r2.isNegative)

/-- the set-up line of a transfer started in the world `w` -/
def SetupLine (w : World) (setup : Bytes) : Prop :=
  match w.mode with
  | .passive => setup = if w.rfc then str "EPSV" else str "PASV"
  | .active => ∃ fam addr port, setup = fmtEprt fam addr port ∨ fmtPort fam addr port = some setup

theorem passiveRest_steps {cmd : Bytes} {rs rs' : Replies} {w w' : World} {ready : Bool}
    (h : passiveRest cmd rs w = (.ok (ready, rs'), w')) :
    ∃ r, rs' = rs.append r ∧ Steps w [.send cmd, .recv r] w' ∧ ready = !r.isNegative := by
  unfold passiveRest at h
  simp only [bind_ok, Prod.exists, ite_ok, pure_ok, Prod.mk.injEq] at h
  obtain ⟨r, rs1, w1, h1, h⟩ := h
  obtain ⟨rfl, s1⟩ := Steps.turn h1
  obtain ⟨hneg, _, w2, h2, ⟨rfl, rfl⟩, rfl⟩ | ⟨hneg, ⟨rfl, rfl⟩, rfl⟩ := h
  · exact ⟨r, rfl, by simpa using s1.trans (.of_desc (dataDisconnect_own _) h2), by simp [hneg]⟩
  · exact ⟨r, rfl, s1, by simp [hneg]⟩

theorem passive_steps {β : Type} {verb : String} {parse : Bytes → Option β} {conn : β → M Unit}
    (hconn : ∀ x w r w', conn x w = (r, w') → Quiet w w') {cmd : Bytes} {rs rs' : Replies} {w w' : World} {ready : Bool}
    (h : passive verb parse conn cmd rs w = (.ok (ready, rs'), w')) :
    ∃ as, Steps w as w' ∧ rs'.list = rs.list ++ recvs as ∧ CdcActs (str verb) cmd ready as := by
  unfold passive at h
  simp only [bind_ok, Prod.exists, ite_ok, pure_ok, Prod.mk.injEq] at h
  obtain ⟨c, w0, hc, r1, rs1, w1, h1, h⟩ := h
  obtain ⟨rfl, rfl⟩ := mkCmd_line hc
  obtain ⟨rfl, s1⟩ := Steps.turn h1
  obtain ⟨hneg, ⟨rfl, rfl⟩, rfl⟩ | ⟨hneg, h⟩ := h
  · exact ⟨_, s1, by simp [recvs], .inl ⟨r1, rfl, hneg, rfl⟩⟩
  · rcases hp : parse r1.text with _ | x
    · simp [hp] at h
    · simp only [hp, bind_ok] at h
      obtain ⟨_, w2, h2, h⟩ := h
      obtain ⟨r2, rfl, s3, hr⟩ := passiveRest_steps h
      exact ⟨_, (s1.trans (.of_quiet (hconn _ _ _ _ h2))).trans s3, by simp [recvs],
        .inr ⟨r1, r2, rfl, by simpa using hneg, hr⟩⟩

theorem activeTail_steps {c cmd : Bytes} {rs rs' : Replies} {w w' : World} {ready : Bool}
    (h : activeTail c cmd rs w = (.ok (ready, rs'), w')) :
    ∃ as, Steps w as w' ∧ rs'.list = rs.list ++ recvs as ∧ CdcActs c cmd ready as := by
  unfold activeTail at h
  simp only [bind_ok, Prod.exists, ite_ok, pure_ok, Prod.mk.injEq] at h
  obtain ⟨r1, rs1, w1, h1, h⟩ := h
  obtain ⟨rfl, s1⟩ := Steps.turn h1
  obtain ⟨hneg, ⟨rfl, rfl⟩, rfl⟩ | ⟨hneg, r2, rs2, w2, h2, h⟩ := h
  · exact ⟨_, s1, by simp [recvs], .inl ⟨r1, rfl, hneg, rfl⟩⟩
  · obtain ⟨rfl, s2⟩ := Steps.turn h2
    obtain ⟨hneg2, ⟨rfl, rfl⟩, rfl⟩ | ⟨hneg2, _, w3, h3, ⟨rfl, rfl⟩, rfl⟩ := h
    · exact ⟨_, s1.trans s2, by simp [recvs], .inr ⟨r1, r2, rfl, by simpa using hneg, by simp [hneg2]⟩⟩
    · exact ⟨_, (s1.trans s2).trans (.of_desc dataAccept_own h3), by simp [recvs],
        .inr ⟨r1, r2, rfl, by simpa using hneg, by simp [hneg2]⟩⟩

theorem createDataConnection_steps {cmd : Bytes} {rs rs' : Replies} {w w' : World} {ready : Bool}
    (h : createDataConnection cmd rs w = (.ok (ready, rs'), w')) :
    ∃ setup as, SetupLine w setup ∧ Steps w as w' ∧ rs'.list = rs.list ++ recvs as ∧ CdcActs setup cmd ready as := by
  rcases createDataConnection_method cmd rs w with ⟨hm, β, verb, parse, conn, e, hv, _, hconn⟩ | ⟨hm, e⟩ <;> rw [e] at h
  · obtain ⟨as, s, hl, sh⟩ := passive_steps (fun x w r w' h => by
      obtain ⟨addr, port, e⟩ := hconn x w
      exact .of_desc (dataConnect_own addr port) (e ▸ h)) h
    exact ⟨_, as, by simp [SetupLine, hm, hv], s, hl, sh⟩
  · rw [processActive_eq] at h
    rcases hl : activeLine w.rfc w with _ | c <;> rw [hl] at h
    · cases h
    · obtain ⟨as, s, hll, sh⟩ := activeTail_steps h
      refine ⟨c, as, ?_, by simpa using (Steps.of_desc dataListen_own (dataListen_run w)).trans s, hll, sh⟩
      unfold SetupLine
      rw [hm]
      unfold activeLine at hl
      split at hl
      · exact ⟨_, _, _, .inl (Option.some.inj hl).symm⟩
      · exact ⟨_, _, _, .inr hl⟩

/-! #### the end of a transfer -/

/-- how a transfer ends: the completion reply is read, or (`abor`) ABOR is sent and answered by one reply, by two if
    the first is 426 -/
def FinActs (abor : Bool) (as : List Act) : Prop :=
  (abor = false ∧ ∃ c, as = [.recv c]) ∨
  (abor = true ∧ ((∃ a, as = [.send (str "ABOR"), .recv a] ∧ a.code ≠ 426) ∨
    ∃ a b, as = [.send (str "ABOR"), .recv a, .recv b] ∧ a.code = 426))

theorem FinActs.sends {abor : Bool} {as : List Act} (sh : FinActs abor as) :
    sends as = if abor then [str "ABOR" ++ CRLF] else [] := by
  rcases sh with ⟨rfl, c, rfl⟩ | ⟨rfl, ⟨a, rfl, _⟩ | ⟨a, b, rfl, _⟩⟩ <;> rfl

theorem processAbort_steps {rs rs' : Replies} {w w' : World} (h : processAbort rs w = (.ok rs', w')) :
    ∃ as, Steps w as w' ∧ rs'.list = rs.list ++ recvs as ∧ FinActs true as := by
  unfold processAbort at h
  simp only [bind_ok, Prod.exists, ite_ok, pure_ok] at h
  obtain ⟨c, w0, hc, a, rs1, w1, h1, h⟩ := h
  obtain ⟨rfl, rfl⟩ := mkCmd_line hc
  obtain ⟨rfl, s1⟩ := Steps.turn h1
  obtain ⟨h426, b, rs2, w2, h2, rfl, rfl⟩ | ⟨h426, rfl, rfl⟩ := h
  · obtain ⟨rfl, s2⟩ := Steps.recvInto h2
    exact ⟨_, s1.trans s2, by simp [recvs], .inr ⟨rfl, .inr ⟨a, b, rfl, by simpa using h426⟩⟩⟩
  · exact ⟨_, s1, by simp [recvs], .inr ⟨rfl, .inl ⟨a, rfl, by simpa using h426⟩⟩⟩

theorem poll_ok {w w' : World} {b : Bool} (h : poll w = (.ok b, w')) : w'.cancelled = b := by
  rw [DataL.poll_run] at h
  obtain ⟨e, rfl⟩ := Prod.mk.inj h
  exact Res.ok.inj e

theorem finishTransfer_steps {cb : Bool} {rs rs' : Replies} {w w' : World}
    (h : finishTransfer cb rs w = (.ok rs', w')) :
    ∃ as, Steps w as w' ∧ rs'.list = rs.list ++ recvs as ∧ FinActs (cb && w'.cancelled) as := by
  have cAbort : Keeps CtlStep (processAbort rs) := ctlStep_of fun C => keeps_processAbort C rs
  unfold finishTransfer at h
  rw [ite_bind_ok] at h
  obtain ⟨b, w1, h0, h⟩ := h
  -- after the poll `b` is the sticky flag
  obtain ⟨hb, s0⟩ : (cb && w1.cancelled) = b ∧ Steps w [] w1 := by
    simp only [ite_ok, pure_ok, Bool.not_eq_true] at h0
    obtain ⟨rfl, h0⟩ | ⟨rfl, rfl, rfl⟩ := h0
    · exact ⟨by simpa using poll_ok h0, .of_move poll_own h0⟩
    · exact ⟨rfl, .nil _⟩
  simp only [ite_ok, bind_ok, Prod.exists, pure_ok, Bool.not_eq_true] at h
  obtain ⟨rfl, rs2, w2, h2, _, w3, h3, rfl, rfl⟩ | ⟨rfl, _, w2, h2, c, rs3, w3, h3, rfl, rfl⟩ := h
  · obtain ⟨as, s2, hl, sh⟩ := processAbort_steps h2
    have hc : w3.cancelled = w1.cancelled :=
      ((dataDisconnect_own _).of_eq h3).cancelled.trans (cAbort.of_eq h2).cancelled
    exact ⟨as, by simpa using s0.trans (s2.trans (.of_desc (dataDisconnect_own _) h3)), hl, by rw [hc, hb]; exact sh⟩
  · obtain ⟨rfl, s3⟩ := Steps.recvInto h3
    have hc : w3.cancelled = w1.cancelled :=
      ((recvInto_step _).of_eq h3).cancelled.trans ((dataDisconnect_own _).of_eq h2).cancelled
    exact ⟨_, by simpa using s0.trans ((Steps.of_desc (dataDisconnect_own _) h2).trans s3), by simp [recvs],
      .inl ⟨by rw [hc]; exact hb, c, rfl⟩⟩

/-- the control dialogue of a transfer: the set-up, and - if it made a data connection ready - the end of the transfer -/
def XferActs (setup cmd : Bytes) (abor : Bool) (as : List Act) : Prop :=
  ∃ cdc fin ready, as = cdc ++ fin ∧ CdcActs setup cmd ready cdc ∧ (ready = false → fin = []) ∧
    (ready = true → FinActs abor fin)

theorem withScope_ok {α} {body : M α} {cleanup : M Unit} {w w' : World} {a : α}
    (h : withScope body cleanup w = (.ok a, w')) : ∃ w1 u, body w = (.ok a, w1) ∧ cleanup w1 = (.ok u, w') := by
  unfold withScope at h
  rcases hb : body w with ⟨b | _, w1⟩
  · rw [hb] at h
    simp only at h
    rcases hc : cleanup w1 with ⟨u | _, w2⟩
    · rw [hc] at h
      simp only [Prod.mk.injEq, Res.ok.injEq] at h
      obtain ⟨rfl, rfl⟩ := h
      exact ⟨w1, u, rfl, hc⟩
    · rw [hc] at h; simp at h
  · rw [hb] at h; simp at h

/-- a transfer over its body: `out` are the replies of its result, `abor` says from the final world whether the body
    has aborted -/
theorem xfer_steps {α : Type} {verb : String} {arg : Option Bytes} {body : Replies → M α} {dflt : Replies → α}
    (out : α → Replies) (abor : World → Bool) (hd : ∀ rs, out (dflt rs) = rs)
    (hab : ∀ w w' r, destroyConn w = (r, w') → abor w' = abor w)
    (hb : ∀ rs w a w', body rs w = (.ok a, w') →
      ∃ as, Steps w as w' ∧ (out a).list = rs.list ++ recvs as ∧ FinActs (abor w') as)
    {w w' : World} {a : α} (h : xfer verb arg body dflt w = (.ok a, w')) :
    ∃ as, Steps w as w' ∧ (out a).list = recvs as ∧
      ∃ setup, SetupLine w setup ∧ XferActs setup (Spec.line verb arg) (abor w') as := by
  obtain ⟨w4, _, h, hdc⟩ := withScope_ok h
  have sd := Steps.of_desc destroyConn_own hdc
  simp only [bind_ok] at h
  obtain ⟨c, w0, hc, ⟨ready, rs1⟩, w1, h1, h⟩ := h
  obtain ⟨rfl, rfl⟩ := mkCmd_line hc
  obtain ⟨setup, cdc, hs, s1, hl1, sh⟩ := createDataConnection_steps h1
  simp only [Replies.empty, List.nil_append] at hl1
  cases ready
  · simp only [Bool.false_eq_true, if_false, pure_ok] at h
    obtain ⟨rfl, rfl⟩ := h
    exact ⟨cdc, by simpa using s1.trans sd, by rw [hd, hl1], setup, hs,
      ⟨cdc, [], false, by simp, sh, fun _ => rfl, (fun h => by cases h)⟩⟩
  · simp only [if_true] at h
    obtain ⟨fin, s2, hl2, sf⟩ := hb _ _ _ _ h
    refine ⟨cdc ++ fin, by simpa using (s1.trans s2).trans sd, by rw [hl2, hl1, recvs_append], setup, hs,
      ⟨cdc, fin, true, rfl, sh, (fun h => by cases h), fun _ => ?_⟩⟩
    rw [hab _ _ _ hdc]; exact sf

theorem moveBody_steps {cb : Bool} {mv : TType → M Unit} (hk : ∀ t, Keeps MoveStep (mv t)) {rs rs' : Replies}
    {w w' : World} (h : moveBody cb mv rs w = (.ok rs', w')) :
    ∃ as, Steps w as w' ∧ rs'.list = rs.list ++ recvs as ∧ FinActs (cb && w'.cancelled) as := by
  unfold moveBody at h
  simp only [bind_ok, getW_ok] at h
  obtain ⟨wa, wb, ⟨e, e'⟩, _, w2, h2, h3⟩ := h
  subst e'; subst e
  obtain ⟨as, s, hl, sh⟩ := finishTransfer_steps h3
  exact ⟨as, by simpa using (Steps.of_move (hk _) h2).trans s, hl, sh⟩

theorem listBody_steps {rs : Replies} {w w' : World} {a : Replies × Bytes} (h : listBody rs w = (.ok a, w')) :
    ∃ as, Steps w as w' ∧ a.1.list = rs.list ++ recvs as ∧ FinActs false as := by
  unfold listBody at h
  simp only [bind_ok, getW_ok, pure_ok] at h
  obtain ⟨wa, wb, ⟨e, e'⟩, _, w2, h2, _, w3, h3, wc, wd, ⟨e2, e2'⟩, _, w5, h5, _, w7, h7, ⟨r8, rs8⟩, w8, h8, rfl, rfl⟩ := h
  subst e'; subst e; subst e2'; subst e2
  have d2 := Steps.of_quiet (.of_mod h2 rfl rfl rfl rfl)
  have d3 := Steps.of_move (dataRecv_own _ _) h3
  have d5 : Steps wc [] w5 := .of_quiet (.of_dat (.of_list ((listingNotify_own _).of_eq h5)))
  have d7 := Steps.of_desc (dataDisconnect_own _) h7
  obtain ⟨rfl, s8⟩ := Steps.recvInto h8
  exact ⟨_, by simpa using d2.trans (d3.trans (d5.trans (d7.trans s8))), by simp [recvs], .inl ⟨rfl, r8, rfl⟩⟩

/-- the shape of the control dialogue of each call; `w`, `w'`: the worlds before and after (transfer type, cancellation) -/
def OpActs (w w' : World) : Op → List Act → Prop
  | .connect _ _ cred, as => ConnectActs cred w.ttype as
  | .login u p, as => LoginActs u p w.ttype as
  | .logout, as => ∃ r, as = [.send (Spec.line "REIN" none), .recv r]
  | .simple v a, as => ∃ r, as = [.send (Spec.line v a), .recv r]
  | .setType t, as => ∃ r, as = [.send (typeCommand t), .recv r]
  | .rename a b, as => RenameActs a b as
  | .download p cb, as => ∃ setup, SetupLine w setup ∧ XferActs setup (Spec.line "RETR" (some p)) (cb && w'.cancelled) as
  | .upload v p cb, as => ∃ setup, SetupLine w setup ∧ XferActs setup (Spec.line v (some p)) (cb && w'.cancelled) as
  | .list p n, as => ∃ setup, SetupLine w setup ∧ XferActs setup (Spec.line (if n then "NLST" else "LIST") p) false as
  | .disconnect g, as => DisconnectActs g as

/-- where the control dialogue of a call starts: `connect` opens a new connection first -/
def startOf : Op → World → World
  | .connect h p _, w => openW h p w
  | _, w => w

theorem ext_openW (h : Bytes) (p : Nat) (w : World) : Ext w (openW h p w) [] [] := by
  refine ⟨(if w.connected then [.ctlClose] else []) ++ [.ctlConnect h p] ++
    w.observers.map (fun o => Ev.obsConnected o h p), by simp [openW], silent_of_P0 ?_⟩
  intro e he
  simp only [List.mem_append, List.mem_singleton, List.mem_map] at he
  rcases he with (he | rfl) | ⟨o, _, rfl⟩
  · split at he
    · simp only [List.mem_singleton] at he; subst he; rfl
    · cases he
  · rfl
  · rfl

theorem ext_startOf (op : Op) (w : World) : Ext w (startOf op w) [] [] := by
  cases op <;> first | exact Ext.refl w | exact ext_openW ..

theorem map_ok {α β} {m : M α} {f : α → β} {w w' : World} {b : β}
    (h : (do let r ← m; pure (f r) : M β) w = (.ok b, w')) : ∃ r, m w = (.ok r, w') ∧ b = f r := by
  simp only [bind_ok, pure_ok] at h
  obtain ⟨r, _, h1, rfl, rfl⟩ := h
  exact ⟨r, h1, rfl⟩

/-- every call that returns has performed the control steps of its shape, and returns the replies it has framed -/
theorem run_steps (op : Op) {w w' : World} {o : Out} (h : op.run w = (.ok o, w')) :
    ∃ as, Steps (startOf op w) as w' ∧ o.replyList = recvs as ∧ OpActs w w' op as := by
  have moved : ∀ w r w', destroyConn w = (r, w') → w'.cancelled = w.cancelled :=
    fun _ _ _ h => (destroyConn_own.of_eq h).cancelled
  cases op <;> obtain ⟨r, h1, rfl⟩ := map_ok h
  case connect => exact connect_steps h1
  case login => exact login_steps h1
  case logout | simple => exact ⟨_, simple_steps h1, rfl, r, rfl⟩
  case setType => exact ⟨_, setTransferType_steps h1, rfl, r, rfl⟩
  case rename => exact rename_steps h1
  case download p cb =>
    rw [download_eq] at h1
    exact xfer_steps id (fun w => cb && w.cancelled) (fun _ => rfl) (fun _ _ _ h => by rw [moved _ _ _ h])
      (fun _ _ _ _ h => moveBody_steps (dataRecv_own cb) h) h1
  case upload v p cb =>
    rw [upload_eq] at h1
    exact xfer_steps id (fun w => cb && w.cancelled) (fun _ => rfl) (fun _ _ _ h => by rw [moved _ _ _ h])
      (fun _ _ _ _ h => moveBody_steps (dataSend_own cb) h) h1
  case list =>
    rw [fileList_eq] at h1
    exact xfer_steps (·.1) (fun _ => false) (fun _ => rfl) (fun _ _ _ _ => rfl) (fun _ _ _ _ h => listBody_steps h) h1
  case disconnect => exact disconnect_steps h1

abbrev Rt (P : Ev → Prop) := Own (fun _ : World => ()) P

/-- only the control writes are constrained -/
abbrev PW (Q : Bytes → Prop) : Ev → Prop := fun e => ∀ b, e = .ctlWrite b → Q b

def CmdOk (Q : Bytes → Prop) : Prop := ∀ c, hasCrLf c = false → Q (c ++ CRLF)

def OneLine (b : Bytes) : Prop := ∃ line, b = line ++ [CR, LF] ∧ hasCrLf line = false

theorem ctlSend_pw {Q : Bytes → Prop} {c : Bytes} (h : Q (c ++ CRLF)) : Keeps (Rt (PW Q)) (ctlSend c) := by
  unfold ctlSend
  own_walk [Own.emit (fun _ _ => rfl) (fun b hb => by cases hb; exact h), Own.emit (fun _ _ => rfl) (fun _ hb => nomatch hb),
    Own.forObservers (fun _ _ => rfl) (fun _ _ hb => nomatch hb)]

/-- every call, for a predicate on the command writes that every one-line write satisfies -/
theorem run_rt {Q : Bytes → Prop} (hQ : CmdOk Q) (op : Op) (hv : OpVerbOk (fun c => Q (c ++ CRLF)) op) :
    Keeps (Rt (PW Q)) op.run := by
  refine .rel fun w₀ => ?_
  have own : ∀ {σ : Type} {π : World → σ} {P : Ev → Prop}, (∀ b, ¬ P (.ctlWrite b)) →
      ∀ w w', Own π P w w' → Rt (PW Q) w w' :=
    fun hP _ _ h => h.mono (fun _ _ _ => rfl) fun e he b hb => by subst hb; exact absurd he (hP b)
  have hq : ∀ w w', QuietStep w w' → Rt (PW Q) w w' := own nofun
  have C : PrimsC (Rt (PW Q) w₀) (fun c => Q (c ++ CRLF)) :=
    ⟨hQ, fun c hc => (ctlSend_pw hc).inv _, keeps_of_step ctlRecv_own hq⟩
  have A : Prims (Rt (PW Q) w₀) (fun c => Q (c ++ CRLF)) :=
    { C, primsD_of (own nofun), primsX_of (own nofun) with
      close := keeps_of_step ctlClose_own hq, listing := fun t => keeps_of_step (listingNotify_own t) (own nofun) }
  exact keeps_run A op hv
    (fun _ _ _ _ => keeps_connect C (keeps_of_step connectDrop_own hq) (fun _ _ => keeps_of_step (connectOpen_own _ _) hq) _ _ _)
    (fun t _ => keeps_setTransferType C t ⟨fun w hw => IsPre.trans hw ⟨rfl, [], by simp [modifyW], by simp⟩⟩)

/-- every call leaves alone what `f` reads off the settings - a new transfer type excepted, which `f` must not see if
    the call is `setTransferType` -/
theorem run_cfg {σ : Type} (f : CfgPart → σ) (op : Op)
    (ht : ∀ t, op = .setType t → ∀ c : CfgPart, f { c with ttype := t } = f c) :
    Keeps (Own (fun w => f (cfgPart w)) fun _ => True) op.run :=
  run_of_steps (fun _ _ h => h.mono (fun _ _ h => congrArg (f ·.1) h) fun _ _ => trivial)
    (fun _ _ h => h.mono (fun _ _ h => congrArg (f ·.2.1) h) fun _ _ => trivial)
    (fun _ _ h => h.mono (fun _ _ h => congrArg (f ·.2.1) h) fun _ _ => trivial)
    (fun _ _ h => h.mono (fun _ _ h => congrArg (f ·.2.1) h) fun _ _ => trivial) op
    fun t e w => ⟨ht t e (cfgPart w), [], by simp, by simp⟩

theorem added_of_rt {α} {P : Ev → Prop} {m : M α} (h : Keeps (Rt P) m) (w : World) : ∀ e ∈ added m w, P e := by
  obtain ⟨_, evs, t, p⟩ := h w
  unfold Session.added Session.after
  rw [t, List.drop_left]
  exact p

theorem map_apply {α β} (m : M α) (f : α → β) (w : World) :
    ((do let r ← m; pure (f r) : M β) w).2 = (m w).2 := by
  show ((m >>= fun r => pure (f r)) w).2 = _
  rw [bind_apply]
  rcases m w with ⟨a | _, w1⟩ <;> rfl

end Ftp.Client.CtlL
