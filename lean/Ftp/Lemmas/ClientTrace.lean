import Ftp.Lemmas.ClientWalk
/-
  Invariants of the client-level trace properties (C14, C17, the histories): what such an invariant has to tolerate of
  the atomic steps - stated by classes of `modifyW f` and of events (`AtomsA`, `AtomsT`, `AtomsB`, `AtomsD`, `Fine`) -
  and from that every API call (`keeps_run`), through the walk of `Ftp.Client.Walk`.  The invariants are of the form
  "since `w₀` the trace grew by a `δ` with `G w₀ δ w`" (`Grew`); such relations compose, so they also carry over to
  histories.
-/
namespace Ftp.Client.TraceL
open Ftp.Session Ftp.Client.Walk

/-! ### classes of atomic steps -/

/-- a state change that C14 and C17 do not see: trace, observers, connection flag and descriptor bookkeeping stay -/
def Frame (w w' : World) : Prop :=
  w'.trace = w.trace ∧ w'.observers = w.observers ∧ w'.connected = w.connected ∧ w'.conn = w.conn ∧ w'.nextD = w.nextD

/-- a state change of the data-connection bookkeeping only -/
def FrameD (w w' : World) : Prop :=
  w'.trace = w.trace ∧ w'.observers = w.observers ∧ w'.connected = w.connected

theorem frameD_of_frame {w w' : World} (h : Frame w w') : FrameD w w' := ⟨h.1, h.2.1, h.2.2.1⟩

def isDesc : Ev → Bool
  | .dataSocket _ | .dataAccept _ _ | .dataClose _ => true
  | _ => false

def plain (e : Ev) : Bool := !(isTranscript e || isObs e)

def quiet (e : Ev) : Bool := plain e && !isDesc e

/-- `client::recv` after a reply has been framed -/
def recvTail (code : Nat) (text : Bytes) : M Reply := do
  emit (.ctlReply code text)
  if code == 421 then ctlClose
  forObservers (fun o => .obsReply o code text)
  pure ⟨code, text⟩

/-- `client::send` once the observers have been told -/
def sendTail (cmd : Bytes) : M Unit := do
  let w ← getW
  if !w.connected then
    emit (.ctlWriteFail (cmd ++ CRLF))
    throwE
  else
    emit (.ctlWrite (cmd ++ CRLF))
    modifyW fun w =>
      let g : Group := match w.script with
        | g :: _ => g
        | [] => { raws := [str "500 script exhausted\r\n"] }
      { w with script := w.script.tail, net := { w.net with stream := w.net.stream ++ g.raws.flatten },
               act := match g.act with | some a => some a | none => w.act }

theorem ctlSend_eq (cmd : Bytes) : ctlSend cmd = forObservers (fun o => .obsRequest o cmd) >>= fun _ => sendTail cmd := rfl

theorem keeps_ctlRecv {I : World → Prop} (hemit : Keeps I (emit .ctlReadLine))
    (hmod : ∀ f : World → World, (∀ w, Frame w (f w)) → Keeps I (modifyW f))
    (htail : ∀ c t, Keeps I (recvTail c t)) : Keeps I ctlRecv := by
  unfold ctlRecv
  refine keeps_bind keeps_getW fun w => keeps_bind hemit fun _ => keeps_ite keeps_throw ?_
  split
  refine keeps_bind (hmod _ fun _ => ⟨rfl, rfl, rfl, rfl, rfl⟩) fun _ => ?_
  split
  · exact htail _ _
  · exact keeps_throw

/-- what an invariant must tolerate for the operations that do not touch the data-connection object -/
structure AtomsA (I : World → Prop) : Prop where
  mod : ∀ f : World → World, (∀ w, Frame w (f w)) → Keeps I (modifyW f)
  emit : ∀ e, quiet e = true → Keeps I (emit e)
  send : ∀ c, Keeps I (ctlSend c)
  recv : Keeps I ctlRecv
  close : Keeps I ctlClose
  drop : Keeps I connectDrop
  copen : ∀ h p, Keeps I (connectOpen h p)

/-- ... for what follows the set-up of the data connection in a transfer -/
structure AtomsT (I : World → Prop) : Prop extends AtomsA I where
  listing : ∀ t, Keeps I (listingNotify t)
  ddisc : ∀ g, Keeps I (dataDisconnect g)

/-- ... and for all operations -/
structure AtomsB (I : World → Prop) : Prop extends AtomsT I where
  dconn : ∀ a p, Keeps I (dataConnect a p)
  dlisten : Keeps I dataListen
  daccept : Keeps I dataAccept
  destroy : Keeps I destroyConn

/-- invariants that tolerate every single step of the data-connection primitives -/
structure AtomsD (I : World → Prop) : Prop extends AtomsA I where
  modD : ∀ f : World → World, (∀ w, FrameD w (f w)) → Keeps I (modifyW f)
  emitD : ∀ e, plain e = true → Keeps I (Client.emit e)
  listing : ∀ t, Keeps I (listingNotify t)

/-! ### invariants that tolerate every step which leaves the descriptor bookkeeping alone -/

/-- a state change invisible to the descriptor bookkeeping -/
def FrameC (w w' : World) : Prop := w'.trace = w.trace ∧ w'.conn = w.conn ∧ w'.nextD = w.nextD

/-- `I` tolerates what the control channel does: a `modifyW` that C14 and C17 do not see, every event or notification
    that is no descriptor event, and the three blocks in which `connected` changes -/
structure Fine (I : World → Prop) : Prop where
  mod : ∀ f : World → World, (∀ w, Frame w (f w)) → Keeps I (modifyW f)
  emit : ∀ e, isDesc e = false → Keeps I (emit e)
  obs : ∀ f : Nat → Ev, (∀ o, isDesc (f o) = false) → Keeps I (forObservers f)
  close : Keeps I ctlClose
  drop : Keeps I connectDrop
  copen : ∀ h p, Keeps I (connectOpen h p)

section fine
variable {I : World → Prop}

theorem Fine.send (F : Fine I) (c : Bytes) : Keeps I (ctlSend c) := by
  rw [ctlSend_eq]
  refine keeps_bind (F.obs _ fun _ => rfl) fun _ => ?_
  unfold sendTail
  exact keeps_bind keeps_getW fun w => keeps_ite (keeps_bind (F.emit _ rfl) fun _ => keeps_throw)
    (keeps_bind (F.emit _ rfl) fun _ => F.mod _ fun _ => ⟨rfl, rfl, rfl, rfl, rfl⟩)

theorem Fine.recvTail (F : Fine I) (c : Nat) (t : Bytes) : Keeps I (recvTail c t) := by
  unfold TraceL.recvTail
  refine keeps_bind (F.emit _ rfl) fun _ => ?_
  have hj : Keeps I (forObservers (fun o => Ev.obsReply o c t) >>= fun _ => (pure ⟨c, t⟩ : M Reply)) :=
    keeps_bind (F.obs _ fun _ => rfl) fun _ => keeps_pure _
  split
  · exact keeps_bind F.close fun _ => hj
  · exact hj

theorem Fine.listing (F : Fine I) (t : Bytes) : Keeps I (listingNotify t) := by
  unfold listingNotify
  exact keeps_bind (F.emit _ rfl) fun _ => F.obs _ fun _ => rfl

theorem Fine.atomsA (F : Fine I) : AtomsA I where
  mod := F.mod
  emit e h := F.emit e (by simp only [quiet, Bool.and_eq_true, Bool.not_eq_true'] at h; exact h.2)
  send := F.send
  recv := keeps_ctlRecv (F.emit _ rfl) F.mod F.recvTail
  close := F.close
  drop := F.drop
  copen := F.copen

theorem Fine.ofC (hmod : ∀ f : World → World, (∀ w, FrameC w (f w)) → Keeps I (modifyW f))
    (hemit : ∀ e, isDesc e = false → Keeps I (Client.emit e))
    (hobs : ∀ f : Nat → Ev, (∀ o, isDesc (f o) = false) → Keeps I (forObservers f)) : Fine I where
  mod f hf := hmod f fun w => ⟨(hf w).1, (hf w).2.2.2.1, (hf w).2.2.2.2⟩
  emit := hemit
  obs := hobs
  close := by
    unfold ctlClose
    exact keeps_bind (hemit _ rfl) fun _ => keeps_bind (hemit _ rfl) fun _ => hmod _ fun _ => ⟨rfl, rfl, rfl⟩
  drop := by
    unfold connectDrop
    exact keeps_bind (hemit _ rfl) fun _ => hmod _ fun _ => ⟨rfl, rfl, rfl⟩
  copen h p := by
    unfold connectOpen
    exact keeps_bind (hmod _ fun _ => ⟨rfl, rfl, rfl⟩) fun _ => keeps_bind (hemit _ rfl) fun _ => hobs _ fun _ => rfl

end fine

/-! ### from the classes of atomic steps to every program -/

section atoms
variable {I : World → Prop}

theorem keeps_events {cls : Ev → Bool} (hemit : ∀ e, cls e = true → Keeps I (emit e)) :
    ∀ (evs : List Ev) (w : World), (∀ e ∈ evs, cls e = true) → I w → I { w with trace := w.trace ++ evs }
  | [], w, _, hw => by simpa using hw
  | e :: evs, w, h, hw => by
    have := keeps_events hemit evs _ (fun x hx => h x (List.mem_cons_of_mem _ hx))
      ((hemit e (h e (List.mem_cons_self ..))).h w hw)
    simpa using this

theorem keeps_change {cls : Ev → Bool} {f : World → World} (hmod : Keeps I (modifyW f))
    (hemit : ∀ e, cls e = true → Keeps I (emit e)) {w : World} {evs : List Ev} (hev : ∀ e ∈ evs, cls e = true)
    (hw : I w) : I { f w with trace := (f w).trace ++ evs } :=
  keeps_events hemit evs _ hev (hmod.h w hw)

theorem AtomsA.move (A : AtomsA I) {w w' : World} (h : MoveStep w w') (hw : I w) : I w' := by
  obtain ⟨evs, hev, e⟩ := h.eq
  rw [e]
  exact keeps_change (f := withXfer w') (A.mod _ fun _ => ⟨rfl, rfl, rfl, rfl, rfl⟩) A.emit
    (fun e he => by have := hev e he; cases e <;> first | rfl | cases this) hw

theorem AtomsD.desc (D : AtomsD I) {w w' : World} (h : DescStep w w') (hw : I w) : I w' := by
  obtain ⟨evs, hev, e⟩ := h.eq
  rw [e]
  exact keeps_change (f := withDesc w') (D.modD _ fun _ => ⟨rfl, rfl, rfl⟩) D.emitD
    (fun e he => by have := hev e he; cases e <;> first | rfl | cases this) hw

theorem AtomsA.primsC (A : AtomsA I) : PrimsC I (fun _ => True) := ⟨fun _ _ => trivial, fun c _ => A.send c, A.recv⟩

theorem AtomsA.primsX (A : AtomsA I) : PrimsX I where
  drecv cb t := ⟨fun w hw => A.move (dataRecv_own cb t w) hw⟩
  dsend cb t := ⟨fun w hw => A.move (dataSend_own cb t w) hw⟩
  poll := ⟨fun w hw => A.move (poll_own w) hw⟩
  silence := A.mod _ fun _ => ⟨rfl, rfl, rfl, rfl, rfl⟩

theorem AtomsB.prims (B : AtomsB I) : Prims I (fun _ => True) :=
  { B.toAtomsA.primsC, B.toAtomsA.primsX with
    dconn := B.dconn, dlisten := B.dlisten, daccept := B.daccept, ddisc := B.ddisc, destroy := B.destroy
    close := B.close, listing := B.listing }

theorem AtomsD.atomsB (D : AtomsD I) : AtomsB I where
  toAtomsA := D.toAtomsA
  listing := D.listing
  ddisc g := ⟨fun w hw => D.desc (dataDisconnect_own g w) hw⟩
  dconn a p := ⟨fun w hw => D.desc (dataConnect_own a p w) hw⟩
  dlisten := ⟨fun w hw => D.desc (dataListen_own w) hw⟩
  daccept := ⟨fun w hw => D.desc (dataAccept_own w) hw⟩
  destroy := ⟨fun w hw => D.desc (destroyConn_own w) hw⟩

theorem keeps_run (B : AtomsB I) (op : Op) : Keeps I op.run :=
  have C := B.toAtomsA.primsC
  Walk.keeps_run B.prims op (by cases op <;> first | trivial | exact .inl fun _ => trivial)
    (fun _ _ _ _ => keeps_connect C B.drop B.copen _ _ _)
    (fun _ _ => keeps_setTransferType C _ (B.mod _ fun _ => ⟨rfl, rfl, rfl, rfl, rfl⟩))

end atoms

/-! ### relations "the trace grew by a `δ` with `G w δ w'`"

The relations of C14, C17 and the histories have this form.  With `Mon G` they are preorders (`IsPre`), so a program
whose runs are `Grew G` steps keeps the invariant `Grew G w₀` (`CtlL.Keeps.inv`), and what a call or a history added
satisfies `G` (`Grew.drop`). -/

/-- `w'` extends the trace of `w` by some `δ` for which `G w δ w'` holds -/
def Grew (G : World → List Ev → World → Prop) (w w' : World) : Prop := ∃ δ, w'.trace = w.trace ++ δ ∧ G w δ w'

/-- `G` holds of the empty extension and composes -/
class Mon (G : World → List Ev → World → Prop) : Prop where
  nil : ∀ w, G w [] w
  app : ∀ {a b c x y}, G a x b → G b y c → G a (x ++ y) c

section grew
variable {G : World → List Ev → World → Prop}

instance [Mon G] : CtlL.IsPre (Grew G) where
  refl w := ⟨[], (List.append_nil _).symm, Mon.nil w⟩
  trans := by
    rintro a b c ⟨x, hx, gx⟩ ⟨y, hy, gy⟩
    exact ⟨x ++ y, by rw [hy, hx, List.append_assoc], Mon.app gx gy⟩

/-- the `δ` is what was appended: `added m w`, `histAdded h w` are of this form -/
theorem Grew.drop {w w' : World} (h : Grew G w w') : G w (w'.trace.drop w.trace.length) w' := by
  obtain ⟨δ, ht, g⟩ := h
  rw [ht, List.drop_left]; exact g

theorem Grew.trace {w w' : World} (h : Grew G w w') : w'.trace = w.trace ++ w'.trace.drop w.trace.length := by
  obtain ⟨δ, ht, _⟩ := h
  rw [ht, List.drop_left]

/-- what a call added satisfies `G`, if `Grew G w₀` tolerates the atomic steps for every `w₀` -/
theorem run_grew [Mon G] (B : ∀ w₀, AtomsB (Grew G w₀)) (op : Op) (w : World) :
    G w (added op.run w) (after op.run w) :=
  (CtlL.Keeps.rel (fun w₀ => keeps_run (B w₀) op) w).drop

end grew

instance mon_true : Mon fun _ _ _ => True := ⟨fun _ => trivial, fun _ _ => trivial⟩

theorem run_trace (op : Op) (w : World) : (after op.run w).trace = w.trace ++ added op.run w :=
  have own : ∀ {σ : Type} {π : World → σ} {P : Ev → Prop} (w w' : World), Own π P w w' →
      Grew (fun _ _ _ => True) w w' := fun _ _ h => h.2.imp fun _ hx => ⟨hx.1, trivial⟩
  (run_of_steps own own own own op (fun _ _ _ => ⟨[], (List.append_nil _).symm, trivial⟩) w).trace

end Ftp.Client.TraceL
