import Ftp.Lemmas.Ascii
import Ftp.Lemmas.ClientPrim
/-
  The transfer loops of `Ftp.Model.Client` (C03, C04, C12): run equations of the sink, source and block primitives;
  the download without a callback (`recvLoop_prefix`, `dataRecv_delivers`); the shape of what a loop with a callback
  adds (`Blocks` for the receive loop, `Sends` / `SmallWrites` for the two send loops); the uploads, binary and ASCII,
  byte for byte (`sendLoopBin_exact`, `sendLoopAscii_exact`).
-/
namespace Ftp.Client.DataL
open Ftp.Session Ftp.Ascii

theorem length_ne_zero {l : Bytes} (h : l.isEmpty = false) : l.length ≠ 0 := by
  cases l <;> simp_all

theorem sinkWrite_run (bs : Bytes) (w : World) : sinkWrite bs w =
    if w.sinkFailAt = some w.sinkWrites then
      (.throw, { w with sinkWrites := w.sinkWrites + 1, trace := w.trace ++ [.sinkWriteFail] })
    else
      (.ok (), { w with sinkWrites := w.sinkWrites + 1, sink := w.sink ++ bs,
                        trace := w.trace ++ (if w.sinkSilent then [] else [.sinkWrite bs.length]) }) := by
  unfold sinkWrite
  by_cases h : w.sinkFailAt = some w.sinkWrites
  · simp [h]
  · cases hs : w.sinkSilent <;> simp [h, hs]

theorem recvLoop_zero (cb t d payload prev w) : recvLoop cb t d 0 payload prev w = (.ok (prev, false), w) := rfl

theorem recvLoop_err (cb t d fuel payload prev) (w : World) (h : w.dataReads.head?.getD (some 0) = none) :
    recvLoop cb t d (fuel+1) payload prev w =
      (.ok (prev, true), { w with dataReads := w.dataReads.tail, trace := w.trace ++ [.dataReadErr d] }) := by
  rw [recvLoop]
  simp [h]

theorem recvLoop_empty (cb t d fuel payload prev) (w : World) (n0 : Nat) (h : w.dataReads.head?.getD (some 0) = some n0)
    (hb : (payload.take (min n0 8192)).isEmpty = true) :
    recvLoop cb t d (fuel+1) payload prev w =
      (.ok (prev, false), { w with dataReads := w.dataReads.tail, trace := w.trace ++ [.dataRead d 0] }) := by
  rw [recvLoop]
  cases n0 with
  | zero => msimp [h]
  | succ n => msimp [h, hb]

theorem recvLoop_block (cb t d fuel payload prev) (w : World) (n0 : Nat) (h : w.dataReads.head?.getD (some 0) = some n0)
    (hb : (payload.take (min n0 8192)).isEmpty = false) :
    recvLoop cb t d (fuel+1) payload prev w =
      (streamWrite t prev (payload.take (min n0 8192)) >>= fun p =>
        if cb then
          (emit (.cbNotify (payload.take (min n0 8192)).length) >>= fun _ =>
           poll >>= fun c => if c then pure (p, false) else recvLoop cb t d fuel (payload.drop (min n0 8192)) p)
        else recvLoop cb t d fuel (payload.drop (min n0 8192)) p)
      { w with dataReads := w.dataReads.tail, trace := w.trace ++ [.dataRead d (payload.take (min n0 8192)).length] } := by
  rw [recvLoop]
  cases n0 with
  | zero => simp at hb
  | succ n =>
    msimp [h, hb]

theorem sinkFlush_run (w : World) : sinkFlush w =
    (.ok (), { w with sinkFlushes := w.sinkFlushes + 1,
                      trace := w.trace ++ (if w.sinkSilent then [] else [.sinkFlush]) }) := by
  unfold sinkFlush
  cases hs : w.sinkSilent <;> msimp [hs] <;> simp

/-- what one block becomes on its way to the sink, and the new `prev_cr_` -/
def conv (t : TType) (prev : Bool) (block : Bytes) : Bytes × Bool :=
  match t with
  | .binary => (block, false)
  | .ascii => Ascii.write prev block

theorem streamWrite_eq (t : TType) (prev : Bool) (block : Bytes) (w : World) :
    streamWrite t prev block w = (sinkWrite (conv t prev block).1 >>= fun _ => pure (conv t prev block).2) w := by
  cases t <;> rfl

theorem streamWrite_run (t : TType) (prev : Bool) (block : Bytes) (w : World) : streamWrite t prev block w =
    if w.sinkFailAt = some w.sinkWrites then
      (.throw, { w with sinkWrites := w.sinkWrites + 1, trace := w.trace ++ [.sinkWriteFail] })
    else
      (.ok (conv t prev block).2,
        { w with sinkWrites := w.sinkWrites + 1, sink := w.sink ++ (conv t prev block).1,
                 trace := w.trace ++ (if w.sinkSilent then [] else [.sinkWrite (conv t prev block).1.length]) }) := by
  rw [streamWrite_eq, bind_eq, sinkWrite_run]
  by_cases h : w.sinkFailAt = some w.sinkWrites
  · simp only [h, if_true]
  · simp only [h, if_false]; rfl

/-- what the sink is still owed for the unread input `s`: in binary mode `s` itself, in ASCII mode the pending CR and
    `s`, converted; `streamFlush` hands it `owed t prev []` -/
def owed (t : TType) (prev : Bool) (s : Bytes) : Bytes :=
  match t with
  | .binary => s
  | .ascii => dlRest prev s

theorem conv_owed (t : TType) (prev : Bool) (block rest : Bytes) :
    (conv t prev block).1 ++ owed t (conv t prev block).2 rest = owed t prev (block ++ rest) := by
  cases t
  · rfl
  · exact writeGo_spec block prev [] rest

theorem streamFlush_ok (t : TType) (prev : Bool) (w : World) (h : w.sinkFailAt = none) :
    ∃ w', streamFlush t prev w = (.ok (), w') ∧ w'.sink = w.sink ++ owed t prev [] ∧
      w'.sinkFlushes = w.sinkFlushes + 1 ∧ w'.dataReads = w.dataReads ∧
      (t = .binary → w'.trace = w.trace ++ (if w.sinkSilent then [] else [.sinkFlush])) := by
  unfold streamFlush
  cases t with
  | binary =>
    msimp [sinkFlush_run]
    exact ⟨_, rfl, by simp [owed], rfl, rfl, fun _ => rfl⟩
  | ascii =>
    cases prev with
    | false =>
      msimp [sinkFlush_run]
      exact ⟨_, rfl, by simp [owed, dlRest, Spec.dlSpec], rfl, rfl, fun h => by cases h⟩
    | true =>
      msimp [bind_eq, sinkWrite_run, h, sinkFlush_run]
      simp only [reduceCtorEq, if_false]
      exact ⟨_, rfl, by simp [owed, dlRest, Spec.dlSpec], rfl, rfl, fun h => by cases h⟩

theorem srcRead_run (n : Nat) (w : World) : srcRead n w =
    if w.srcFailAt = some w.srcReads then
      (.throw, { w with srcReads := w.srcReads + 1, trace := w.trace ++ [.srcFail] })
    else
      (.ok (w.src.read n).1, { w with srcReads := w.srcReads + 1, src := (w.src.read n).2,
                                      trace := w.trace ++ [.srcRead n (w.src.read n).1.length] }) := by
  unfold srcRead
  by_cases h : w.srcFailAt = some w.srcReads
  · msimp [h]; simp
  · msimp [h]; simp [h]

theorem dataWrite_run (d : Nat) (block : Bytes) (w : World) : dataWrite d block w =
    if w.blockOks.head?.getD true = true then
      (.ok (), { w with blockOks := w.blockOks.tail, peerGot := w.peerGot ++ block,
                        trace := w.trace ++ [.dataWrite d block.length] })
    else
      (.throw, { w with blockOks := w.blockOks.tail, trace := w.trace ++ [.dataWriteErr d] }) := by
  unfold dataWrite
  cases h : w.blockOks.head?.getD true <;> msimp [h]

/-! ### download without a callback -/

/-- the number of payload bytes a sequence of reads consumes (a read returns at most 8192 bytes) -/
def cut (reads : List Nat) : Nat := (reads.map (min · 8192)).sum

/-- events of an undisturbed binary download into an audible sink -/
def recvEvs (d : Nat) (reads : List Nat) : List Ev :=
  (reads.map fun n => [Ev.dataRead d (min n 8192), Ev.sinkWrite (min n 8192)]).flatten

theorem cut_le_sum (reads : List Nat) : cut reads ≤ reads.sum := by
  induction reads with
  | nil => simp [cut]
  | cons n rs ih => simp only [cut, List.map_cons, List.sum_cons] at ih ⊢; omega

theorem cut_eq_sum (reads : List Nat) (h : ∀ n ∈ reads, n ≤ 8192) : cut reads = reads.sum := by
  induction reads with
  | nil => simp [cut]
  | cons n rs ih =>
    have h1 := h n (by simp)
    have h2 := ih (fun m hm => h m (by simp [hm]))
    simp only [cut, List.map_cons, List.sum_cons] at h2 ⊢
    omega

/-- the loop on reads that all deliver: `reads` is peeled off read by read; what stays constant is the sink together
    with what it is still owed for the rest of the payload (`owed`) -/
theorem recvLoop_prefix (t : TType) (d : Nat) : ∀ (reads : List Nat) (k : Nat) (payload : Bytes) (prev : Bool)
    (w : World) (rest : List (Option Nat)),
    w.dataReads = reads.map some ++ rest → (∀ n ∈ reads, 0 < n) → reads.sum ≤ payload.length →
    w.sinkFailAt = none →
    ∃ prev' w', recvLoop false t d (reads.length + k) payload prev w
        = recvLoop false t d k (payload.drop (cut reads)) prev' w' ∧
      w'.dataReads = rest ∧ w'.sinkFailAt = none ∧ w'.sinkFlushes = w.sinkFlushes ∧ w'.sinkSilent = w.sinkSilent ∧
      w'.sink ++ owed t prev' (payload.drop (cut reads)) = w.sink ++ owed t prev payload ∧
      (t = .binary → w.sinkSilent = false → w'.trace = w.trace ++ recvEvs d reads) := by
  intro reads
  induction reads with
  | nil =>
    intro k payload prev w rest h _ _ hs
    refine ⟨prev, w, ?_, ?_, hs, rfl, rfl, ?_, ?_⟩
    · simp [cut]
    · simpa using h
    · simp [cut]
    · intro _ _; simp [recvEvs]
  | cons n rs ih =>
    intro k payload prev w rest h hpos hlen hs
    have hn : 0 < n := hpos n (by simp)
    simp only [List.sum_cons] at hlen
    have hhd : w.dataReads.head?.getD (some 0) = some n := by rw [h]; rfl
    have hl : (payload.take (min n 8192)).length = min n 8192 := by rw [List.length_take]; omega
    have hb : (payload.take (min n 8192)).isEmpty = false :=
      List.isEmpty_eq_false_iff.2 (List.ne_nil_of_length_pos (by omega))
    have hfuel : (n :: rs).length + k = (rs.length + k) + 1 := by simp only [List.length_cons]; omega
    have hne : ¬ (w.sinkFailAt = some w.sinkWrites) := by rw [hs]; simp
    rw [hfuel, recvLoop_block false t d _ payload prev w n hhd hb, bind_eq, streamWrite_run, if_neg hne]
    simp only [Bool.false_eq_true, if_false]
    obtain ⟨prev', w', h1, h2, h3, h4, h5, h6, h7⟩ := ih k (payload.drop (min n 8192)) (conv t prev (payload.take (min n 8192))).2
      { w with dataReads := w.dataReads.tail,
               sinkWrites := w.sinkWrites + 1, sink := w.sink ++ (conv t prev (payload.take (min n 8192))).1,
               trace := w.trace ++ [.dataRead d (payload.take (min n 8192)).length] ++
                  (if w.sinkSilent then [] else [.sinkWrite (conv t prev (payload.take (min n 8192))).1.length]) }
      rest (by simp [h]) (fun m hm => hpos m (by simp [hm])) (by rw [List.length_drop]; omega) hs
    have hcut : cut (n :: rs) = min n 8192 + cut rs := by simp [cut]
    refine ⟨prev', w', ?_, h2, h3, h4, h5, ?_, ?_⟩
    · rw [h1, hcut, List.drop_drop]
    · rw [hcut, ← List.drop_drop, h6, List.append_assoc, conv_owed, List.take_append_drop]
    · intro ht hsil
      have := h7 ht hsil
      rw [this]
      subst ht
      simp [conv, hsil, recvEvs, hl]

/-- the descriptor and the payload `dataRecv` / `dataSend` work with -/
def dOf (w : World) : Nat := match w.conn with | some c => c.sock.getD 0 | none => 0
def payloadOf (w : World) : Bytes := match w.act with | some (.send p) => p | _ => []

theorem bind_pure_unit (m : M Unit) (w : World) : (m >>= fun _ => pure ()) w = m w := by
  rw [bind_eq]
  rcases m w with ⟨r | _, w'⟩ <;> rfl

theorem dataRecv_nocb_ok (t : TType) (w w1 : World) (p failed : Bool)
    (h : recvLoop false t (dOf w) (w.dataReads.length + 1) (payloadOf w) false w = (.ok (p, failed), w1)) :
    dataRecv false t w = if failed then (.throw, w1) else streamFlush t p w1 := by
  unfold dataRecv
  msimp
  rw [bind_eq]
  -- `erw`: the model spells `dOf w` and `payloadOf w` out as matches
  erw [h]
  cases failed
  · msimp [bind_pure_unit]
  · msimp

theorem dataRecv_nocb_throw (t : TType) (w w1 : World)
    (h : recvLoop false t (dOf w) (w.dataReads.length + 1) (payloadOf w) false w = (.throw, w1)) :
    dataRecv false t w = (.throw, w1) := by
  unfold dataRecv
  msimp
  rw [bind_eq]
  erw [h]

theorem recvEvs_eq (d : Nat) (reads : List Nat) (h : ∀ n ∈ reads, n ≤ 8192) :
    recvEvs d reads = (reads.map fun n => [Ev.dataRead d n, Ev.sinkWrite n]).flatten := by
  induction reads with
  | nil => rfl
  | cons n rs ih =>
    have h1 := h n (by simp)
    have h2 := ih (fun m hm => h m (by simp [hm]))
    simp only [recvEvs, List.map_cons, List.flatten_cons] at h2 ⊢
    rw [h2, Nat.min_eq_left h1]

theorem dataRecv_delivers (t : TType) (w : World) (payload : Bytes) (reads : List Nat) (more : List (Option Nat))
    (hb : ∀ n ∈ reads, 0 < n ∧ n ≤ 8192) (hsum : reads.sum = payload.length)
    (hact : w.act = some (.send payload)) (hreads : w.dataReads = reads.map some ++ some 0 :: more)
    (hsink : w.sinkFailAt = none) :
    result (dataRecv false t) w = .ok () ∧
    (after (dataRecv false t) w).sinkFlushes = w.sinkFlushes + 1 ∧
    (after (dataRecv false t) w).dataReads = more ∧
    (after (dataRecv false t) w).sink = w.sink ++ owed t false payload ∧
    (t = .binary → w.sinkSilent = false → (after (dataRecv false t) w).trace = w.trace ++
        ((reads.map fun n => [Ev.dataRead (dOf w) n, Ev.sinkWrite n]).flatten ++ [.dataRead (dOf w) 0, .sinkFlush])) := by
  have hpay : payloadOf w = payload := by simp [payloadOf, hact]
  have hfuel : w.dataReads.length + 1 = reads.length + (more.length + 1 + 1) := by
    rw [hreads]; simp; omega
  have hcut : cut reads = payload.length := by
    rw [cut_eq_sum reads (fun n hn => (hb n hn).2), hsum]
  obtain ⟨prev', w', h1, h2, h3, h4, h5, h6, h7⟩ := recvLoop_prefix t (dOf w) reads (more.length + 1 + 1) payload false w
    (some 0 :: more) hreads (fun n hn => (hb n hn).1) (by omega) hsink
  rw [hcut] at h1 h6
  rw [recvLoop_empty _ _ _ _ _ _ _ 0 (by rw [h2]; rfl) rfl] at h1
  have hrun := dataRecv_nocb_ok t w _ prev' false (by rw [hpay, hfuel]; exact h1)
  simp only [Bool.false_eq_true, if_false] at hrun
  obtain ⟨w'', g1, g2, g3, g4, g5⟩ := streamFlush_ok t prev'
    { w' with dataReads := w'.dataReads.tail, trace := w'.trace ++ [.dataRead (dOf w) 0] } h3
  rw [g1] at hrun
  simp only [result, after, hrun]
  refine ⟨trivial, ?_, ?_, ?_, ?_⟩
  · rw [g3]; simp [h4]
  · rw [g4]; simp [h2]
  · rw [g2, ← h6, List.drop_length]
  · intro ht hsil
    rw [g5 ht]
    simp only [h5, hsil, h7 ht hsil, recvEvs_eq _ _ (fun n hn => (hb n hn).2)]
    simp

/-! ### transfers with a callback: the shape of the added events -/

/-- events that are neither callback invocations nor block movements -/
def quiet : Ev → Bool
  | .sinkWrite _ | .sinkWriteFail | .sinkFlush | .srcRead _ _ | .srcFail | .dataRead _ 0 | .dataReadErr _
  | .dataWriteErr _ => true
  | _ => false

/-- `mv` moves a block of `n` bytes over the data connection -/
def isMove (n : Nat) : Ev → Bool
  | .dataRead _ m => m == n && n != 0
  | .dataWrite _ m => m == n
  | _ => false

/-- the events of a transfer loop with a callback that ran to its end: quiet events and blocks
    `move, (quiet)*, notify, poll`; after a poll that reported cancellation only quiet events follow -/
inductive Blocks : List Ev → Prop
  | nil : Blocks []
  | skip (e : Ev) (l : List Ev) : DataL.quiet e = true → Blocks l → Blocks (e :: l)
  | block (mv : Ev) (n : Nat) (s : List Ev) (b : Bool) (rest : List Ev) :
      isMove n mv = true → n ≤ 8192 → (∀ e ∈ s, DataL.quiet e = true) →
      (b = true → ∀ e ∈ rest, DataL.quiet e = true) → Blocks rest →
      Blocks (mv :: s ++ .cbNotify n :: .cbPoll b :: rest)

theorem Blocks.of_quiet (l : List Ev) (h : ∀ e ∈ l, quiet e = true) : Blocks l := by
  induction l with
  | nil => exact .nil
  | cons e l ih => exact .skip e l (h e (by simp)) (ih fun x hx => h x (by simp [hx]))

theorem recvLoop_blocks (t : TType) (d : Nat) : ∀ (fuel : Nat) (payload : Bytes) (prev : Bool) (w : World),
    ∃ l, (recvLoop true t d fuel payload prev w).2.trace = w.trace ++ l ∧
      (∀ r, (recvLoop true t d fuel payload prev w).1 = .ok r → Blocks l) := by
  intro fuel
  induction fuel with
  | zero =>
    intro payload prev w
    exact ⟨[], by simp [recvLoop_zero], fun _ _ => .nil⟩
  | succ fuel ih =>
    intro payload prev w
    cases h : w.dataReads.head?.getD (some 0) with
    | none =>
      rw [recvLoop_err _ _ _ _ _ _ _ h]
      exact ⟨[.dataReadErr d], rfl, fun _ _ => .of_quiet _ (by simp [quiet])⟩
    | some n0 =>
      cases hb : (payload.take (min n0 8192)).isEmpty with
      | true =>
        rw [recvLoop_empty _ _ _ _ _ _ _ n0 h hb]
        exact ⟨[.dataRead d 0], rfl, fun _ _ => .of_quiet _ (by simp [quiet])⟩
      | false =>
        rw [recvLoop_block _ _ _ _ _ _ _ n0 h hb, bind_eq, streamWrite_run]
        have hlen : (payload.take (min n0 8192)).length ≤ 8192 := by
          rw [List.length_take]; omega
        have hpos := length_ne_zero hb
        generalize payload.take (min n0 8192) = block at hlen hpos
        by_cases hf : w.sinkFailAt = some w.sinkWrites
        · rw [if_pos hf]
          exact ⟨[.dataRead d block.length, .sinkWriteFail], by simp, fun r hr => by simp at hr⟩
        · rw [if_neg hf]
          msimp [bind_eq, poll_run]
          generalize hs : (if w.sinkSilent = true then [] else [Ev.sinkWrite (conv t prev block).1.length]) = s
          have hsq : ∀ e ∈ s, quiet e = true := by
            intro e he
            rw [← hs] at he
            split at he
            · simp at he
            · simp at he; subst he; rfl
          cases hc : (w.cancelled || w.polls.head?.getD false) with
          | true =>
            simp only [if_true]
            refine ⟨.dataRead d block.length :: s ++ .cbNotify block.length :: .cbPoll true :: [], by simp,
              fun _ _ => .block _ _ _ _ _ (by simp [isMove, hpos]) hlen hsq (fun _ e he => by simp at he) .nil⟩
          | false =>
            simp only [Bool.false_eq_true, if_false]
            obtain ⟨l, h1, h2⟩ := ih (payload.drop (min n0 8192)) (conv t prev block).2
              { w with dataReads := w.dataReads.tail, sinkWrites := w.sinkWrites + 1,
                       sink := w.sink ++ (conv t prev block).1, polls := w.polls.tail, cancelled := false,
                       trace := w.trace ++ [.dataRead d block.length] ++ s ++ [.cbNotify block.length] ++ [.cbPoll false] }
            refine ⟨.dataRead d block.length :: s ++ .cbNotify block.length :: .cbPoll false :: l, ?_, fun r hr =>
              .block _ _ _ _ _ (by simp [isMove, hpos]) hlen hsq (fun h => by cases h) (h2 r hr)⟩
            rw [h1]
            simp

theorem Blocks.append_quiet {l : List Ev} (hl : Blocks l) (q : List Ev) (hq : ∀ e ∈ q, quiet e = true) :
    Blocks (l ++ q) := by
  induction hl with
  | nil => exact .of_quiet q hq
  | skip e l he _ ih => exact .skip e _ he ih
  | block mv n s b rest hmv hn hs hb _ ih =>
    have : (mv :: s ++ Ev.cbNotify n :: Ev.cbPoll b :: rest) ++ q = mv :: s ++ Ev.cbNotify n :: Ev.cbPoll b :: (rest ++ q) := by
      simp
    rw [this]
    exact .block mv n s b _ hmv hn hs (fun hb' => List.forall_mem_append.mpr ⟨hb hb', hq⟩) ih

theorem streamFlush_quiet (t : TType) (prev : Bool) (w : World) :
    ∃ q, (streamFlush t prev w).2.trace = w.trace ++ q ∧ ∀ e ∈ q, quiet e = true := by
  have k : CtlL.Keeps (Walk.Own (fun _ => ()) (quiet · = true)) (streamFlush t prev) := by
    unfold streamFlush sinkWrite sinkFlush; own_walk []
  exact (k w).2

theorem dataRecv_cb_eq (t : TType) (w : World) : dataRecv true t w =
    (poll >>= fun c => if c then pure () else
      emit .cbBegin >>= fun _ => recvLoop true t (dOf w) (w.dataReads.length + 1) (payloadOf w) false >>= fun x =>
        if x.2 then ((throwE : M Unit) >>= fun _ => streamFlush t x.1 >>= fun _ => emit .cbEnd)
        else streamFlush t x.1 >>= fun _ => emit .cbEnd) w := by
  unfold dataRecv
  msimp
  rfl

theorem dataRecv_cb (t : TType) (w : World) (h : result (dataRecv true t) w = .ok ()) :
    added (dataRecv true t) w = [.cbPoll true] ∨
    ∃ l, Blocks l ∧ added (dataRecv true t) w = .cbPoll false :: .cbBegin :: l ++ [.cbEnd] := by
  have hrun := CtlL.run_of_result h
  rw [dataRecv_cb_eq, CancelL.poll_bind'] at hrun
  generalize dOf w = d at hrun
  generalize payloadOf w = payload at hrun
  cases hc : (w.cancelled || w.polls.head?.getD false) with
  | true =>
    rw [hc] at hrun
    msimp at hrun
    exact .inl (added_of_trace _ _ _ (by rw [← (Prod.mk.inj hrun).2]; simp [CancelL.pollW, hc]))
  | false =>
    -- the call returned, so the loop and the flush did; `end` is the last event
    rw [hc] at hrun
    msimp at hrun
    obtain ⟨⟨p, failed⟩, w3, hloop, hrest⟩ := CtlL.bind_ok.mp hrun
    obtain ⟨l, h1, h2⟩ := recvLoop_blocks t d (w.dataReads.length + 1) payload false
      { CancelL.pollW w with trace := (CancelL.pollW w).trace ++ [.cbBegin] }
    rw [hloop] at h1 h2
    cases failed with
    | true => cases hrest
    | false =>
      obtain ⟨_, w4, hf, hend⟩ := CtlL.bind_ok.mp hrest
      obtain ⟨q, g1, g2⟩ := streamFlush_quiet t p w3
      rw [hf] at g1
      refine .inr ⟨l ++ q, (h2 _ rfl).append_quiet q g2, added_of_trace _ _ _ ?_⟩
      rw [← (Prod.mk.inj hend).2]
      simp only at g1 h1
      simp [g1, h1, CancelL.pollW, hc]

/-! ### the upload loops -/

theorem src_read_length_le (s : Src) (n : Nat) : (s.read n).1.length ≤ n := by
  simp only [Src.read, List.length_take]
  omega

theorem all_true_tail (l : List Bool) (h : ∀ b ∈ l, b = true) : ∀ b ∈ l.tail, b = true :=
  fun b hb => h b (List.mem_of_mem_tail hb)

theorem sendLoopBin_exact (d : Nat) : ∀ (fuel : Nat) (w : World), (∀ b ∈ w.blockOks, b = true) → w.srcFailAt = none →
    w.src.data.length + 1 ≤ fuel →
    ∃ w', sendLoopBin false d fuel w = (.ok (), w') ∧ w'.peerGot = w.peerGot ++ w.src.data ∧ w'.src.data = [] := by
  intro fuel
  induction fuel with
  | zero => intro w _ _ h; omega
  | succ fuel ih =>
    intro w hok hsrc hfuel
    have hne : ¬ (w.srcFailAt = some w.srcReads) := by rw [hsrc]; simp
    obtain ⟨hr1, hr2⟩ := Src.read_spec w.src 8192 (by omega)
    rw [sendLoopBin, bind_eq, srcRead_run, if_neg hne]
    simp only
    cases hb : (w.src.read 8192).1.isEmpty with
    | true =>
      have he : (w.src.read 8192).1 = [] := by simpa using hb
      have hd := hr2 he
      rw [he, hd] at hr1
      msimp
      exact ⟨_, rfl, by simp [hd], by simpa using hr1⟩
    | false =>
      msimp [bind_eq, dataWrite_run, head_getD_const _ _ hok]
      have hlt : (w.src.read 8192).2.data.length < w.src.data.length := by
        rw [← hr1, List.length_append]
        have := length_ne_zero hb
        omega
      obtain ⟨w', h1, h2, h3⟩ := ih
        { w with srcReads := w.srcReads + 1, src := (w.src.read 8192).2, blockOks := w.blockOks.tail,
                 peerGot := w.peerGot ++ (w.src.read 8192).1,
                 trace := w.trace ++ [.srcRead 8192 (w.src.read 8192).1.length] ++ [.dataWrite d (w.src.read 8192).1.length] }
        (all_true_tail _ hok) hsrc (by simp only; omega)
      refine ⟨w', h1, ?_, h3⟩
      rw [h2]
      simp only [List.append_assoc, hr1]

/-- does one of the source reads performed inside an `ascii_istream::read` fail? -/
def asciiFails (w : World) (calls : Nat) : Bool :=
  match w.srcFailAt with
  | some k => w.srcReads ≤ k && k < w.srcReads + calls
  | none => false

theorem sendLoopAscii_succ (cb : Bool) (d fuel : Nat) (st : IState) (w : World) :
    sendLoopAscii cb d (fuel + 1) st w =
      if asciiFails w (w.src.sched.length - (Ascii.read st w.src 8192).2.2.sched.length) = true then
        (.throw, { w with trace := w.trace ++ [.srcFail] })
      else if (Ascii.read st w.src 8192).1.isEmpty = true then
        (.ok (), { w with src := (Ascii.read st w.src 8192).2.2,
                          srcReads := w.srcReads + (w.src.sched.length - (Ascii.read st w.src 8192).2.2.sched.length) })
      else
        (dataWrite d (Ascii.read st w.src 8192).1 >>= fun _ =>
          if cb then
            (emit (.cbNotify (Ascii.read st w.src 8192).1.length) >>= fun _ => poll >>= fun c =>
              if c then pure () else sendLoopAscii cb d fuel (Ascii.read st w.src 8192).2.1)
          else sendLoopAscii cb d fuel (Ascii.read st w.src 8192).2.1)
        { w with src := (Ascii.read st w.src 8192).2.2,
                 srcReads := w.srcReads + (w.src.sched.length - (Ascii.read st w.src 8192).2.2.sched.length) } := by
  rw [sendLoopAscii]
  rcases hr : Ascii.read st w.src 8192 with ⟨block, st', src'⟩
  unfold asciiFails
  cases hf : w.srcFailAt with
  | none => msimp [hr, hf]
  | some k => msimp [hr, hf]

theorem asciiFails_none (w : World) (calls : Nat) (h : w.srcFailAt = none) : asciiFails w calls = false := by
  simp [asciiFails, h]

theorem sendLoopAscii_exact (d : Nat) : ∀ (fuel : Nat) (st : IState) (w : World), (∀ b ∈ w.blockOks, b = true) →
    w.srcFailAt = none → 1 ≤ st.bufSize → (remain st w.src).length + 1 ≤ fuel →
    ∃ w', sendLoopAscii false d fuel st w = (.ok (), w') ∧ w'.peerGot = w.peerGot ++ remain st w.src := by
  intro fuel
  induction fuel with
  | zero => intro st w _ _ _ h; omega
  | succ fuel ih =>
    intro st w hok hsrc hbuf hfuel
    obtain ⟨h1, h2, h3, _⟩ := read_spec st w.src 8192 (by omega) hbuf
    rw [sendLoopAscii_succ, asciiFails_none _ _ hsrc]
    simp only [Bool.false_eq_true, if_false]
    cases hb : (Ascii.read st w.src 8192).1.isEmpty with
    | true =>
      have he : (Ascii.read st w.src 8192).1 = [] := by simpa using hb
      simp only [if_true]
      exact ⟨_, rfl, by simp [h2 he]⟩
    | false =>
      msimp [bind_eq, dataWrite_run, head_getD_const _ _ hok]
      have hlt : (remain (Ascii.read st w.src 8192).2.1 (Ascii.read st w.src 8192).2.2).length < (remain st w.src).length := by
        rw [← h1, List.length_append]
        have := length_ne_zero hb
        omega
      obtain ⟨w', g1, g2⟩ := ih (Ascii.read st w.src 8192).2.1
        { w with src := (Ascii.read st w.src 8192).2.2,
                 srcReads := w.srcReads + (w.src.sched.length - (Ascii.read st w.src 8192).2.2.sched.length),
                 blockOks := w.blockOks.tail,
                 peerGot := w.peerGot ++ (Ascii.read st w.src 8192).1,
                 trace := w.trace ++ [.dataWrite d (Ascii.read st w.src 8192).1.length] }
        (all_true_tail _ hok) hsrc (by omega) (by simp only; omega)
      refine ⟨w', g1, ?_⟩
      rw [g2]
      simp only [List.append_assoc, h1]

/-- every block handed to the data socket holds at most 8192 bytes -/
def SmallWrites (l : List Ev) : Prop := ∀ e ∈ l, ∀ d n, e = Ev.dataWrite d n → n ≤ 8192

theorem SmallWrites.append {l₁ l₂ : List Ev} (h₁ : SmallWrites l₁) (h₂ : SmallWrites l₂) : SmallWrites (l₁ ++ l₂) :=
  List.forall_mem_append.mpr ⟨h₁, h₂⟩

theorem SmallWrites.nil : SmallWrites [] := by intro e he; cases he

/-- a sending program: every block it hands to the data socket is small, and when it runs with a callback and returns
    its events are blocks -/
def Sends (cb : Bool) (m : M Unit) : Prop :=
  ∀ w, ∃ l, (m w).2.trace = w.trace ++ l ∧ SmallWrites l ∧ (cb = true → (m w).1 = .ok () → Blocks l)

theorem smallWrites_of {l : List Ev} (h : ∀ e ∈ l, ∀ d n, e ≠ Ev.dataWrite d n) : SmallWrites l :=
  fun e he d n hn => absurd hn (h e he d n)

theorem Sends.done (cb : Bool) : Sends cb (pure ()) := fun _ => ⟨[], by simp, .nil, fun _ _ => .nil⟩

/-- what both loops do with a block: it is written and reported, then the loop goes on unless the callback cancels -/
theorem Sends.block {cb : Bool} {next : M Unit} (d : Nat) (block : Bytes) (hlen : block.length ≤ 8192)
    (hn : Sends cb next) :
    Sends cb (dataWrite d block >>= fun _ =>
      if cb then emit (.cbNotify block.length) >>= fun _ => poll >>= fun c => if c then pure () else next
      else next) := by
  intro w
  have hmv : isMove block.length (.dataWrite d block.length) = true := by simp [isMove]
  have hsw : SmallWrites [.dataWrite d block.length] := by
    intro e he d' n hn
    rw [List.mem_singleton.mp he] at hn
    cases hn; exact hlen
  rw [bind_eq, dataWrite_run]
  cases hw : w.blockOks.head?.getD true with
  | false =>
    exact ⟨[.dataWriteErr d], by simp, smallWrites_of (by simp), fun _ h => by simp at h⟩
  | true =>
    simp only [if_true]
    cases cb with
    | false =>
      simp only [Bool.false_eq_true, if_false]
      obtain ⟨l, h1, h2, _⟩ := hn
        { w with blockOks := w.blockOks.tail, peerGot := w.peerGot ++ block,
                 trace := w.trace ++ [.dataWrite d block.length] }
      exact ⟨[.dataWrite d block.length] ++ l, by rw [h1]; simp, hsw.append h2, fun h => by cases h⟩
    | true =>
      msimp [bind_eq, poll_run]
      have hsw' : ∀ b, SmallWrites ([.dataWrite d block.length] ++ [.cbNotify block.length, .cbPoll b]) :=
        fun b => hsw.append (smallWrites_of (by simp))
      cases hc : (w.cancelled || w.polls.head?.getD false) with
      | true =>
        simp only [if_true]
        exact ⟨.dataWrite d block.length :: [] ++ .cbNotify block.length :: .cbPoll true :: [],
          by simp, hsw' true, fun _ _ => .block _ _ _ _ _ hmv hlen (by simp) (by simp) .nil⟩
      | false =>
        simp only [Bool.false_eq_true, if_false]
        obtain ⟨l, h1, h2, h3⟩ := hn
          { w with blockOks := w.blockOks.tail, peerGot := w.peerGot ++ block, polls := w.polls.tail,
                   cancelled := false,
                   trace := w.trace ++ [.dataWrite d block.length] ++ [.cbNotify block.length] ++ [.cbPoll false] }
        exact ⟨.dataWrite d block.length :: [] ++ .cbNotify block.length :: .cbPoll false :: l,
          by rw [h1]; simp, (hsw' false).append h2,
          fun _ hr => .block _ _ _ _ _ hmv hlen (by simp) (by simp) (h3 rfl hr)⟩

theorem sendLoopBin_general (cb : Bool) (d : Nat) : ∀ fuel, Sends cb (sendLoopBin cb d fuel)
  | 0 => Sends.done cb
  | fuel + 1 => by
    intro w
    rw [sendLoopBin, bind_eq, srcRead_run]
    by_cases hf : w.srcFailAt = some w.srcReads
    · rw [if_pos hf]
      exact ⟨[.srcFail], rfl, smallWrites_of (by simp), fun _ h => by simp at h⟩
    · rw [if_neg hf]
      -- the read is a quiet event in front of what is done with the block
      have key : Sends cb (if (w.src.read 8192).1.isEmpty then pure () else
          dataWrite d (w.src.read 8192).1 >>= fun _ =>
            if cb then emit (.cbNotify (w.src.read 8192).1.length) >>= fun _ => poll >>= fun c =>
              if c then pure () else sendLoopBin cb d fuel
            else sendLoopBin cb d fuel) := by
        split
        · exact Sends.done cb
        · exact Sends.block d _ (src_read_length_le w.src 8192) (sendLoopBin_general cb d fuel)
      obtain ⟨l, h1, h2, h3⟩ := key
        { w with srcReads := w.srcReads + 1, src := (w.src.read 8192).2,
                 trace := w.trace ++ [.srcRead 8192 (w.src.read 8192).1.length] }
      exact ⟨.srcRead 8192 (w.src.read 8192).1.length :: l, by rw [h1]; simp,
        SmallWrites.append (l₁ := [_]) (smallWrites_of (by simp)) h2, fun hc hr => .skip _ _ rfl (h3 hc hr)⟩

theorem sendLoopAscii_general (cb : Bool) (d : Nat) : ∀ (fuel : Nat) (st : IState), 1 ≤ st.bufSize →
    Sends cb (sendLoopAscii cb d fuel st)
  | 0, _, _ => Sends.done cb
  | fuel + 1, st, hbuf => by
    intro w
    rw [sendLoopAscii_succ]
    obtain ⟨_, _, hbuf', hlen⟩ := read_spec st w.src 8192 (by omega) hbuf
    split
    · exact ⟨[.srcFail], rfl, smallWrites_of (by simp), fun _ h => by simp at h⟩
    · split
      · exact Sends.done cb _
      · exact Sends.block d _ hlen (sendLoopAscii_general cb d fuel _ (by omega)) _

def sendLoop (cb : Bool) (d fuel : Nat) (t : TType) : M Unit :=
  match t with
  | .binary => sendLoopBin cb d fuel
  | .ascii => sendLoopAscii cb d fuel (IState.init 8192)

theorem sendLoop_general (cb : Bool) (d fuel : Nat) (t : TType) : Sends cb (sendLoop cb d fuel t) := by
  cases t with
  | binary => exact sendLoopBin_general cb d fuel
  | ascii => exact sendLoopAscii_general cb d fuel (IState.init 8192) (by simp [IState.init])

theorem dataSend_cb_eq (t : TType) (w : World) : dataSend true t w =
    (poll >>= fun c => if c then pure () else
      emit .cbBegin >>= fun _ => sendLoop true (dOf w) (2 * w.src.data.length + 2) t >>= fun _ => emit .cbEnd) w := by
  cases t <;> (unfold dataSend; msimp; rfl)

theorem dataSend_nocb_eq (t : TType) (w : World) :
    dataSend false t w = sendLoop false (dOf w) (2 * w.src.data.length + 2) t w := by
  cases t <;> (unfold dataSend; msimp; exact bind_pure_unit _ _)

theorem dataSend_general (cb : Bool) (t : TType) (w : World) :
    ∃ l, (after (dataSend cb t) w).trace = w.trace ++ l ∧ SmallWrites l ∧
      (cb = true → result (dataSend cb t) w = .ok () →
        l = [.cbPoll true] ∨ ∃ l', Blocks l' ∧ l = .cbPoll false :: .cbBegin :: l' ++ [.cbEnd]) := by
  cases cb with
  | false =>
    obtain ⟨l, h1, h2, _⟩ := sendLoop_general false (dOf w) (2 * w.src.data.length + 2) t w
    exact ⟨l, by simp only [after, dataSend_nocb_eq]; exact h1, h2, fun h => by cases h⟩
  | true =>
    simp only [after, result, dataSend_cb_eq]
    generalize dOf w = d
    generalize 2 * w.src.data.length + 2 = fuel
    cases hc : (w.cancelled || w.polls.head?.getD false) with
    | true =>
      msimp [bind_eq, poll_run, hc]
      exact ⟨[.cbPoll true], rfl, by simp [SmallWrites], fun _ _ => .inl rfl⟩
    | false =>
      msimp [bind_eq, poll_run, hc]
      obtain ⟨l, h1, h2, h3⟩ := sendLoop_general true d fuel t
        { w with polls := w.polls.tail, cancelled := false, trace := w.trace ++ [.cbPoll false] ++ [.cbBegin] }
      rcases hr : sendLoop true d fuel t
        { w with polls := w.polls.tail, cancelled := false, trace := w.trace ++ [.cbPoll false] ++ [.cbBegin] } with ⟨r, w3⟩
      rw [hr] at h1 h3
      simp only at h1 h3
      have hpre : SmallWrites [.cbPoll false, .cbBegin] := smallWrites_of (by simp)
      cases r with
      | throw =>
        simp only
        refine ⟨.cbPoll false :: .cbBegin :: l, by rw [h1]; simp, hpre.append h2, fun _ h => by simp at h⟩
      | ok u =>
        msimp
        refine ⟨.cbPoll false :: .cbBegin :: l ++ [.cbEnd], by rw [h1]; simp, ?_, fun _ _ => .inr ⟨l, h3 trivial rfl, rfl⟩⟩
        exact (hpre.append h2).append (smallWrites_of (by simp))
end Ftp.Client.DataL
