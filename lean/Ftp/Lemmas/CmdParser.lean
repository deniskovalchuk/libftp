import Ftp.Spec.Pure
/- the command-line parser (`Ftp.Cmd`, C19): `iequals` with a lower-case name is equality after ASCII lowering; what the
   proofs need of the 27 rows of the verb table is one evaluation (`verbTable_row`); skipping white space, taking a word and
   extracting a quoted string invert `Spec.quote` behind any run of white space -/
namespace Ftp.Cmd

def isLowerName (n : Bytes) : Prop := ∀ b ∈ n, 97 ≤ b ∧ b ≤ 122

instance (n : Bytes) : Decidable (isLowerName n) := by unfold isLowerName; infer_instance

theorem toUpper_eq_iff (a b : Nat) (hb : 97 ≤ b ∧ b ≤ 122) :
    toUpper a = toUpper b ↔ Spec.asciiLower a = b := by
  unfold toUpper Spec.asciiLower
  simp only [Bool.and_eq_true, decide_eq_true_eq]
  unfold Byte
  split <;> split <;> omega

theorem iequals_iff (tok n : Bytes) (hn : isLowerName n) :
    iequals tok n = true ↔ tok.map Spec.asciiLower = n := by
  unfold iequals
  induction tok generalizing n with
  | nil => cases n <;> simp
  | cons a t ih =>
    cases n with
    | nil => simp
    | cons b n' =>
      have hb : 97 ≤ b ∧ b ≤ 122 := hn b (by simp)
      have hn' : isLowerName n' := fun x hx => hn x (by simp [hx])
      have := ih n' hn'
      simp only [beq_iff_eq] at this
      simp only [List.map_cons, beq_iff_eq, List.cons.injEq, toUpper_eq_iff a b hb, this]

theorem isSpace_false_of_lower (b : Nat) (h : 97 ≤ Spec.asciiLower b ∧ Spec.asciiLower b ≤ 122) :
    isSpace b = false := by
  unfold Spec.asciiLower at h
  unfold isSpace
  simp only [Bool.and_eq_true, decide_eq_true_eq] at h
  simp only [Bool.or_eq_false_iff, Bool.and_eq_false_iff, decide_eq_false_iff_not]
  unfold Byte at h ⊢
  split at h <;> omega

/-- all that the proofs need of the 27 rows, checked row by row by evaluation: the name is lower-case and not empty, it
    is the name `Command.name` gives the row's command, and looking it up in the table gives the row's command -/
theorem verbTable_row : ∀ p ∈ verbTable,
    isLowerName (str p.1) ∧ str p.1 ≠ [] ∧ p.2.name = p.1 ∧
    (match verbTable.find? (fun q => str p.1 == str q.1) with
      | some q => some q.2
      | none => none) = some p.2 := by
  decide +kernel

theorem name_mem (c : Command) : (c.name, c) ∈ verbTable := by
  have h : c ∈ verbTable.map (·.2) := by cases c <;> decide +kernel
  obtain ⟨p, hp, rfl⟩ := List.mem_map.1 h
  rw [(verbTable_row p hp).2.2.1]
  exact hp

theorem find_congr {α : Type} (l : List α) (p q : α → Bool) (h : ∀ x ∈ l, p x = q x) :
    l.find? p = l.find? q := by
  induction l with
  | nil => rfl
  | cons a t ih =>
    have ha := h a (by simp)
    have := ih (fun x hx => h x (by simp [hx]))
    simp only [List.find?_cons, ha, this]

theorem commandFromString_eq (tok : Bytes) :
    commandFromString tok =
      match verbTable.find? (fun p => tok.map Spec.asciiLower == str p.1) with
      | some p => some p.2
      | none => none := by
  unfold commandFromString
  congr 1
  apply find_congr
  intro p hp
  have := iequals_iff tok (str p.1) (verbTable_row p hp).1
  rw [Bool.eq_iff_iff, this, beq_iff_eq]

theorem skipWs_append_space (ws rest : Bytes) (h : ∀ b ∈ ws, isSpace b = true) :
    skipWs (ws ++ rest) = skipWs rest := by
  induction ws with
  | nil => rfl
  | cons c t ih =>
    have hc := h c (by simp)
    simp only [List.cons_append, skipWs, hc, if_true]
    exact ih (fun b hb => h b (by simp [hb]))

theorem skipWs_all_space (ws : Bytes) (h : ∀ b ∈ ws, isSpace b = true) : skipWs ws = [] := by
  have := skipWs_append_space ws [] h
  simpa [skipWs] using this

theorem skipWs_cons_nonspace (c : Byte) (t : Bytes) (h : isSpace c = false) :
    skipWs (c :: t) = c :: t := by
  simp [skipWs, h]

def startsSpace (rest : Bytes) : Prop := ∀ c ∈ rest.head?, isSpace c = true

theorem takeWord_startsSpace (rest : Bytes) (hr : startsSpace rest) : takeWord rest = ([], rest) := by
  cases rest with
  | nil => rfl
  | cons c t =>
    have : isSpace c = true := hr c (by simp)
    simp [takeWord, this]

theorem takeWord_append (w rest : Bytes) (hw : ∀ b ∈ w, isSpace b = false) (hr : startsSpace rest) :
    takeWord (w ++ rest) = (w, rest) := by
  induction w with
  | nil => exact takeWord_startsSpace rest hr
  | cons c t ih =>
    have hc := hw c (by simp)
    have := ih (fun b hb => hw b (by simp [hb]))
    simp [takeWord, hc, this]

theorem startsSpace_of_all (s : Bytes) (hs : ∀ b ∈ s, isSpace b = true) : startsSpace s :=
  fun c hc => hs c (List.mem_of_mem_head? hc)

theorem quotedBody_escape (a rest acc : Bytes) :
    quotedBody (Spec.escape a ++ 34 :: rest) false acc = some (acc ++ a, rest) := by
  induction a generalizing acc with
  | nil => simp [Spec.escape, quotedBody]
  | cons c t ih =>
    unfold Spec.escape
    by_cases h : c = 34 ∨ c = 92
    · simp only [h, if_true, List.cons_append, quotedBody]
      simp [ih]
    · have h1 : c ≠ 34 := fun e => h (Or.inl e)
      have h2 : c ≠ 92 := fun e => h (Or.inr e)
      simp [quotedBody, h1, h2, ih]

theorem extractQuoted_quote (sep a rest : Bytes) (hsep : ∀ b ∈ sep, isSpace b = true) :
    extractQuoted (sep ++ Spec.quote a ++ rest) = some (a, rest) := by
  unfold extractQuoted Spec.quote
  have : sep ++ ([34] ++ Spec.escape a ++ [34]) ++ rest = sep ++ (34 :: (Spec.escape a ++ 34 :: rest)) := by
    simp
  rw [this, skipWs_append_space _ _ hsep, skipWs_cons_nonspace _ _ (by decide)]
  simp [quotedBody_escape]

theorem extractQuoted_all_space (s : Bytes) (hs : ∀ b ∈ s, isSpace b = true) : extractQuoted s = none := by
  unfold extractQuoted
  rw [skipWs_all_space s hs]

end Ftp.Cmd
