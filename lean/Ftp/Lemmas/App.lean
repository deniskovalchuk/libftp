import Ftp.Model.App
/-
  The interactive client (`Ftp.App`), for C20.  A handler only pops input lines, leaves the loop flags alone and reports
  end of input only when the input is exhausted (`Good`, closed under the constructs the handlers are written in);
  hence the loop ends only on `exit` or at the end of the input (`run_spec`).  `get` is the connection check, its
  arguments and `getBody`, whose effect on the working directory is `getRun_fs`.
-/
namespace Ftp.App.L
open Ftp.Client Ftp.Cmd

theorem bind_apply {α β} (m : A α) (f : α → A β) (w : AppWorld) :
    (m >>= f) w = (match m w with
      | (.ok a, w') => f a w'
      | (.cmdErr e, w') => (.cmdErr e, w')
      | (.ftpErr, w') => (.ftpErr, w')
      | (.eof, w') => (.eof, w')) := rfl

theorem ite_apply_A {α} (c : Prop) [Decidable c] (t e : A α) (w : AppWorld) :
    (if c then t else e) w = if c then t w else e w := by split <;> rfl

theorem pure_apply {α} (a : α) (w : AppWorld) : (pure a : A α) w = (.ok a, w) := rfl

theorem bind_assoc {α β γ} (m : A α) (f : α → A β) (g : β → A γ) :
    (m >>= f) >>= g = m >>= fun a => f a >>= g := by
  funext w
  simp only [bind_apply]
  rcases m w with ⟨r, w'⟩
  cases r <;> rfl

theorem needConnection_apply (w : AppWorld) : needConnection w =
    if w.client.connected = true then (.ok (), w) else (.cmdErr (str "Connection is not open."), w) := by
  simp only [needConnection, bind_apply, getA, ite_apply_A, failS, fail, pure_apply]
  cases w.client.connected <;> rfl

/-! ### what `client m` leaves alone -/

def AppRes.isEof {α} : AppRes α → Bool
  | .eof => true
  | _ => false

theorem client_spec {α} (m : M α) (w : AppWorld) :
    (client m w).2.stdin = w.stdin ∧ (client m w).2.ended = w.ended ∧ (client m w).2.status = w.status ∧
    (client m w).2.fs = w.fs ∧ AppRes.isEof (client m w).1 = false := by
  unfold client
  rcases h : m { w.client with trace := [] } with ⟨r, c⟩
  cases r <;> simp [AppRes.isEof]

theorem client_stdin {α} (m : M α) (w : AppWorld) : (client m w).2.stdin = w.stdin := (client_spec m w).1
theorem client_fs {α} (m : M α) (w : AppWorld) : (client m w).2.fs = w.fs := (client_spec m w).2.2.2.1

/-! ### programs that only pop input lines -/

/-- `w'` is `w` after some input lines were consumed; the loop flags are untouched -/
structure Pop (w w' : AppWorld) : Prop where
  ended : w'.ended = w.ended
  status : w'.status = w.status
  suffix : ∃ pre, w.stdin = pre ++ w'.stdin

theorem Pop.refl (w : AppWorld) : Pop w w := ⟨rfl, rfl, [], rfl⟩

theorem Pop.trans {a b c : AppWorld} (h1 : Pop a b) (h2 : Pop b c) : Pop a c := by
  obtain ⟨p1, hp1⟩ := h1.suffix
  obtain ⟨p2, hp2⟩ := h2.suffix
  exact ⟨h2.ended.trans h1.ended, h2.status.trans h1.status, p1 ++ p2, by rw [hp1, hp2, List.append_assoc]⟩

theorem Pop.of_eq {w w' : AppWorld} (h1 : w'.stdin = w.stdin) (h2 : w'.ended = w.ended)
    (h3 : w'.status = w.status) : Pop w w' := ⟨h2, h3, [], by simp [h1]⟩

/-- a program only pops input lines, keeps the loop flags, and reports end of input only when the input is empty -/
def Good {α} (m : A α) : Prop := ∀ w, Pop w (m w).2 ∧ (AppRes.isEof (m w).1 = true → (m w).2.stdin = [])

theorem good_pure {α} (a : α) : Good (pure a : A α) := fun w => ⟨Pop.refl w, by simp [pure, AppRes.isEof]⟩

theorem good_bind {α β} (m : A α) (f : α → A β) (hm : Good m) (hf : ∀ a, Good (f a)) : Good (m >>= f) := by
  intro w
  have h1 := hm w
  rw [bind_apply]
  rcases h : m w with ⟨r, w1⟩
  rw [h] at h1
  cases r with
  | ok a => exact ⟨h1.1.trans (hf a w1).1, (hf a w1).2⟩
  | cmdErr _ | ftpErr => exact ⟨h1.1, by simp [AppRes.isEof]⟩
  | eof => exact ⟨h1.1, fun _ => h1.2 rfl⟩

theorem good_getA : Good getA := fun w => ⟨Pop.refl w, by simp [getA, AppRes.isEof]⟩

theorem good_modifyA (f : AppWorld → AppWorld)
    (h : ∀ w, (f w).stdin = w.stdin ∧ (f w).ended = w.ended ∧ (f w).status = w.status) : Good (modifyA f) :=
  fun w => ⟨Pop.of_eq (h w).1 (h w).2.1 (h w).2.2, by simp [modifyA, AppRes.isEof]⟩

theorem good_print (b : Bytes) : Good (print b) := good_modifyA _ fun _ => ⟨rfl, rfl, rfl⟩
theorem good_println (s : String) : Good (println s) := good_print _

theorem good_fail {α} (msg : Bytes) : Good (fail msg : A α) := fun w => ⟨Pop.refl w, by simp [fail, AppRes.isEof]⟩
theorem good_failS {α} (s : String) : Good (failS s : A α) := good_fail _

theorem good_ftpErr {α} : Good (fun w => (AppRes.ftpErr, w) : A α) := fun w => ⟨Pop.refl w, by simp [AppRes.isEof]⟩

theorem good_readLine (p : String) : Good (readLine p) := by
  intro w
  unfold readLine
  cases h : w.stdin with
  | nil => simp [AppRes.isEof]; exact Pop.of_eq (by simp [h]) rfl rfl
  | cons l rest => simp [AppRes.isEof]; exact ⟨rfl, rfl, [l], by simp [h]⟩

theorem good_client {α} (m : M α) : Good (client m) := fun w =>
  have h := client_spec m w
  ⟨Pop.of_eq h.1 h.2.1 h.2.2.1, by simp [h.2.2.2.2]⟩

theorem good_needConnection : Good needConnection := by
  unfold needConnection
  apply good_bind _ _ good_getA
  intro w
  split
  · exact good_failS _
  · exact good_pure _

theorem good_oneArg (args : List Bytes) (p u : String) : Good (oneArg args p u) := by
  unfold oneArg
  split
  · exact good_readLine _
  · exact good_pure _
  · exact good_failS _

theorem good_optArg (args : List Bytes) (u : String) : Good (optArg args u) := by
  unfold optArg
  split
  · exact good_pure _
  · exact good_pure _
  · exact good_failS _

theorem good_ite {α} (c : Prop) [Decidable c] (t e : A α) (ht : Good t) (he : Good e) : Good (if c then t else e) := by
  split <;> assumption

-- `good_bind` first: most nodes are binds, and that an atom does not fit is seen only when it has been elaborated
macro "good_atom" : tactic => `(tactic| with_reducible (first
  | apply good_bind | intro _
  | exact good_pure _ | exact good_getA | exact good_readLine _ | exact good_client _ | exact good_needConnection
  | exact good_oneArg _ _ _ | exact good_optArg _ _ | exact good_failS _ | exact good_fail _ | exact good_println _
  | exact good_print _ | exact good_ftpErr | exact good_modifyA _ (fun _ => ⟨rfl, rfl, rfl⟩)))

/-- walk a program; join points (`have __do_jp := ..`) that were taken out with `extract_lets` and proved `Good`
    beforehand are found among the hypotheses -/
macro "good_tac" : tactic => `(tactic| repeat (first | good_atom | apply_assumption | apply good_ite | split))

/- The handlers with a join point are walked without inlining it (`simp -zeta`): `open_` has three, nested, and
   inlined the continuation occurs 32 times. -/

theorem good_open (args : List Bytes) : Good (handler .open_ args) := by
  simp -zeta only [handler]
  refine good_bind _ _ good_getA fun w => ?_
  extract_lets session withArgs
  have hs : ∀ x, Good (session x) := fun x => by
    refine good_bind _ _ good_getA fun w => ?_
    extract_lets go
    have hg : ∀ b, Good (go b) := fun b => by good_tac
    clear_value go
    good_tac
  clear_value session
  have ha : ∀ u, Good (withArgs u) := fun u => by unfold withArgs; good_tac
  clear_value withArgs
  good_tac

theorem good_argsThen (c : Command) (args : List Bytes) (h : c = .put ∨ c = .user) : Good (handler c args) := by
  rcases h with rfl | rfl <;>
  · simp -zeta only [handler]
    refine good_bind _ _ good_needConnection fun _ => ?_
    extract_lets tail
    have ht : ∀ x, Good (tail x) := fun x => by good_tac
    clear_value tail
    good_tac

theorem good_exit (args : List Bytes) : Good (handler .exit args) := by
  simp only [handler]
  intro w
  simp only []
  split
  · exact ⟨(good_client (Client.disconnect true) w).1, by simp [AppRes.isEof]⟩
  · exact ⟨Pop.refl w, by simp [AppRes.isEof]⟩

/-- the state in which `get` starts the transfer -/
def started (w : AppWorld) (loc : Bytes) : AppWorld :=
  { w with fs := w.fs ++ [(loc, some [])],
           client := { w.client with sink := [], sinkWrites := 0, sinkFlushes := 0, sinkFailAt := none,
                                     sinkSilent := false, polls := [], cancelled := false } }

/-- what `get` does once the file is created -/
def getRun (rem loc : Bytes) (w : AppWorld) : AppRes Unit × AppWorld :=
  let r := client (download rem true) (started w loc)
  let w' := { r.2 with fs := r.2.fs.map fun e => if e.1 = loc then (loc, some r.2.client.sink) else e }
  match r.1 with
  | .ok rs => if !rs.isPositive then (.ok (), { w' with fs := w'.fs.filter fun e => e.1 != loc }) else (.ok (), w')
  | .ftpErr => (.ftpErr, w')
  | .cmdErr e => (.cmdErr e, w')
  | .eof => (.eof, w')

def getBody (rem loc : Bytes) : A Unit := fun w =>
  if (lookupFs w.fs loc).isSome then (.cmdErr (str "File '" ++ loc ++ str "' already exists."), w)
  else if !creatable loc then (.cmdErr (str "Cannot create file '" ++ loc ++ str "'."), w)
  else getRun rem loc w

def getArgs (args : List Bytes) : A (Bytes × Bytes) :=
  match args with
  | [] => do let r ← readLine "remote-file: "; pure (r, filename r)
  | [r] => pure (r, filename r)
  | [r, l] => pure (r, l)
  | _ => failS "usage: get remote-file [ local-file ]"

theorem getBody_apply (rem loc : Bytes) (w : AppWorld) : getBody rem loc w =
  if (lookupFs w.fs loc).isSome then (.cmdErr (str "File '" ++ loc ++ str "' already exists."), w)
  else if !creatable loc then (.cmdErr (str "Cannot create file '" ++ loc ++ str "'."), w)
  else getRun rem loc w := rfl

theorem handler_get_eq (args : List Bytes) :
    handler .get args = needConnection >>= fun _ => getArgs args >>= fun x => getBody x.1 x.2 := by
  simp -zeta only [handler]
  congr 1; funext _
  extract_lets tail
  -- the join point is `getBody`: `(if c then f else g) w` against `if c then f w else g w`, outcome by outcome
  have ht : tail = fun x => getBody x.1 x.2 := by
    funext x w
    unfold tail
    simp only [getA, getBody_apply, ite_apply_A, fail, bind_apply, modifyA]
    -- not `split`: the last branch is large, and `split` would go through all of it
    refine ite_congr rfl (fun _ => rfl) fun _ => ite_congr rfl (fun _ => rfl) fun _ => ?_
    simp only [getRun, started]
    generalize client (download _ true) _ = r
    rcases r with ⟨r1, w3⟩
    cases r1 <;> simp only [] <;> first | rfl | (rename_i rs; cases rs.isPositive <;> rfl)
  rw [ht]
  clear_value tail
  rcases args with _ | ⟨a, _ | ⟨b, _ | ⟨c, t⟩⟩⟩
  · exact (bind_assoc _ _ _).symm
  · rfl
  · rfl
  · rfl

/-! ### `get` and the working directory -/

theorem getRun_spec (rem loc : Bytes) (w : AppWorld) :
    (getRun rem loc w).2.stdin = w.stdin ∧ (getRun rem loc w).2.ended = w.ended ∧
    (getRun rem loc w).2.status = w.status ∧ AppRes.isEof (getRun rem loc w).1 = false := by
  have h := client_spec (download rem true) (started w loc)
  unfold getRun
  generalize client (download rem true) (started w loc) = r at h
  rcases r with ⟨r1, w3⟩
  cases r1
  · simp only []
    split <;> (simp [AppRes.isEof, started] at h ⊢; exact ⟨h.1, h.2.1, h.2.2.1⟩)
  all_goals (simp [AppRes.isEof, started] at h ⊢ <;> exact ⟨h.1, h.2.1, h.2.2.1⟩)

theorem good_getBody (rem loc : Bytes) : Good (getBody rem loc) := by
  intro w
  rw [getBody_apply]
  split
  · exact ⟨Pop.refl w, by simp [AppRes.isEof]⟩
  split
  · exact ⟨Pop.refl w, by simp [AppRes.isEof]⟩
  have h := getRun_spec rem loc w
  exact ⟨Pop.of_eq h.1 h.2.1 h.2.2.1, by simp [h.2.2.2]⟩

theorem good_getArgs (args : List Bytes) : Good (getArgs args) := by
  unfold getArgs
  good_tac

theorem good_get (args : List Bytes) : Good (handler .get args) := by
  rw [handler_get_eq]
  exact good_bind _ _ good_needConnection fun _ => good_bind _ _ (good_getArgs args) fun x => good_getBody x.1 x.2

theorem good_handler (c : Command) (args : List Bytes) : Good (handler c args) := by
  cases c <;> with_reducible first
    | exact good_open args | exact good_argsThen _ args (.inl rfl) | exact good_argsThen _ args (.inr rfl)
    | exact good_get args | exact good_exit args
    | (simp only [handler]; good_tac)

theorem handle_apply (c : Command) (args : List Bytes) (w : AppWorld) :
    handle c args w = (match handler c args w with
      | (.ftpErr, w') =>
        (.ftpErr, { w' with client := { ((Client.disconnect false) { w'.client with trace := [] }).2 with
            trace := w'.client.trace ++ ((Client.disconnect false) { w'.client with trace := [] }).2.trace } })
      | r => r) := rfl

theorem handle_of_ne {c : Command} {args : List Bytes} {w : AppWorld}
    (h : ∀ w', handler c args w ≠ (.ftpErr, w')) : handle c args w = handler c args w := by
  rw [handle_apply]
  split
  · rename_i w' heq; exact absurd heq (h w')
  · rfl

theorem disconnect_false_connected (w : World) : (Client.disconnect false w).2.connected = false := by
  cases h : w.connected <;>
    simp [Client.disconnect, bind, pure, getW, ctlClose, emit, modifyW, h]

theorem handle_spec (c : Command) (args : List Bytes) (w : AppWorld) :
    (handle c args w).2.stdin = (handler c args w).2.stdin ∧ (handle c args w).2.ended = (handler c args w).2.ended ∧
    (handle c args w).2.status = (handler c args w).2.status ∧ (handle c args w).2.fs = (handler c args w).2.fs ∧
    AppRes.isEof (handle c args w).1 = AppRes.isEof (handler c args w).1 := by
  rw [handle_apply]
  split
  · rename_i w1 heq
    simp [heq, AppRes.isEof]
  · simp

theorem good_handle (c : Command) (args : List Bytes) : Good (handle c args) := by
  intro w
  have h := handle_spec c args w
  have g := good_handler c args w
  refine ⟨⟨h.2.1.trans g.1.ended, h.2.2.1.trans g.1.status, ?_⟩, ?_⟩
  · rw [h.1]; exact g.1.suffix
  · rw [h.1, h.2.2.2.2]; exact g.2

/-! ### the working directory under `get` -/

theorem lookupFs_none {fs : Fs} {loc : Bytes} (h : lookupFs fs loc = none) : ∀ e ∈ fs, e.1 ≠ loc := by
  unfold lookupFs at h
  simp only [Option.map_eq_none_iff, List.find?_eq_none, decide_eq_true_eq] at h
  exact h

theorem map_entry_id {fs : Fs} {loc : Bytes} (s : Bytes) (h : ∀ e ∈ fs, e.1 ≠ loc) :
    fs.map (fun e => if e.1 = loc then (loc, some s) else e) = fs := by
  induction fs with
  | nil => rfl
  | cons a t ih =>
    simp only [List.map_cons, if_neg (h a (by simp)), ih (fun e he => h e (by simp [he]))]

theorem filter_entry_id {fs : Fs} {loc : Bytes} (h : ∀ e ∈ fs, e.1 ≠ loc) :
    fs.filter (fun e => e.1 != loc) = fs := by
  rw [List.filter_eq_self]
  intro e he
  simpa using h e he

theorem getRun_fs (rem loc : Bytes) (w : AppWorld) (hn : lookupFs w.fs loc = none) :
    (∀ e ∈ w.fs, e ∈ (getRun rem loc w).2.fs) ∧
    (∀ rs w', client (download rem true) (started w loc) = (.ok rs, w') → rs.isPositive = false →
      (getRun rem loc w).2.fs = w.fs) := by
  have hne := lookupFs_none hn
  have h := client_fs (download rem true) (started w loc)
  unfold getRun
  generalize client (download rem true) (started w loc) = r at h
  rcases r with ⟨r1, w3⟩
  have hfs : w3.fs = w.fs ++ [(loc, some [])] := h
  have hmap : (w3.fs.map fun e => if e.1 = loc then (loc, some w3.client.sink) else e)
      = w.fs ++ [(loc, some w3.client.sink)] := by
    rw [hfs, List.map_append, map_entry_id _ hne]; simp
  have hfilter : ((w.fs ++ [(loc, some w3.client.sink)]).filter fun e => e.1 != loc) = w.fs := by
    rw [List.filter_append, filter_entry_id hne]; simp
  cases r1
  · rename_i rs
    simp only [hmap, hfilter]
    constructor
    · intro e he; split <;> simp [he]
    · intro rs' w' heq hneg
      injection heq with h1 _
      injection h1 with h1
      subst h1
      simp [hneg]
  all_goals (simp only [hmap]; exact ⟨fun e he => by simp [he], fun rs' w' heq => by simp at heq⟩)

theorem getArgs_fs (args : List Bytes) (w : AppWorld) : (getArgs args w).2.fs = w.fs := by
  unfold getArgs
  split
  · simp only [bind_apply, readLine]
    cases w.stdin <;> rfl
  · rfl
  · rfl
  · rfl

theorem getBody_fs (rem loc : Bytes) (w : AppWorld) : ∀ e ∈ w.fs, e ∈ (getBody rem loc w).2.fs := by
  rw [getBody_apply]
  split
  · exact fun e he => he
  split
  · exact fun e he => he
  rename_i h _
  exact (getRun_fs rem loc w (by simpa using h)).1

theorem handler_get_fs (args : List Bytes) (w : AppWorld) : ∀ e ∈ w.fs, e ∈ (handler .get args w).2.fs := by
  rw [handler_get_eq, bind_apply, needConnection_apply]
  by_cases hc : w.client.connected = true
  · rw [if_pos hc]
    simp only [bind_apply]
    have h := getArgs_fs args w
    generalize getArgs args w = r at h
    rcases r with ⟨r, w2⟩
    have h : w2.fs = w.fs := h
    cases r
    · intro e he; exact getBody_fs _ _ w2 e (h ▸ he)
    all_goals (intro e he; exact h ▸ he)
  · rw [if_neg hc]
    exact fun e he => he

theorem handler_get_two (rem loc : Bytes) (w : AppWorld) (hc : w.client.connected = true) :
    handler .get [rem, loc] w = getBody rem loc w := by
  rw [handler_get_eq, bind_apply, needConnection_apply, if_pos hc]
  rfl

theorem handle_exit_stdin (args : List Bytes) (w : AppWorld) : (handle .exit args w).2.stdin = w.stdin := by
  rw [(handle_spec _ _ _).1]
  simp only [handler]
  split
  · exact client_stdin _ _
  · rfl

theorem step_nil (w : AppWorld) (h : w.stdin = []) :
    step w = { w with out := w.out ++ [Seg.text (str "ftp> ")], ended := true, status := 0 } := by
  simp only [step, h]

theorem step_cons (w : AppWorld) (line : Bytes) (rest : List Bytes) (h : w.stdin = line :: rest) :
    step w =
      (let w1 : AppWorld := { w with out := w.out ++ [Seg.text (str "ftp> ")], stdin := rest }
       if line.isEmpty then w1
       else
         match parseCommand line with
         | .invalid => { w1 with out := w1.out ++ [Seg.text (str "Invalid command." ++ [LF])] }
         | .ok c args =>
           match handle c args w1 with
           | (.ok _, w') => if c = Command.exit then { w' with ended := true, status := 0 } else w'
           | (.cmdErr m, w') => { w' with out := w'.out ++ [Seg.text (m ++ [LF])] }
           | (.ftpErr, w') => { w' with out := w'.out ++ [Seg.errorLine] }
           | (.eof, w') => { w' with ended := true, status := 0 }) := by
  simp only [step, h]
  rfl

/-- what one iteration does on a non-empty input: it goes on having popped at least the command line, or it ends
    with nothing left to read, or it ends because the line was `exit` (and only that line was consumed) -/
theorem step_cons_spec (w : AppWorld) (line : Bytes) (rest : List Bytes) (h : w.stdin = line :: rest)
    (h0 : w.ended = false) :
    ((step w).ended = false ∧ (step w).status = w.status ∧ ∃ pre, rest = pre ++ (step w).stdin) ∨
    ((step w).ended = true ∧ (step w).status = 0 ∧ (step w).stdin = []) ∨
    ((step w).ended = true ∧ (step w).status = 0 ∧ (step w).stdin = rest ∧
      ∃ args, parseCommand line = .ok .exit args) := by
  rw [step_cons w line rest h]
  simp only []
  by_cases hl : line.isEmpty = true
  · rw [if_pos hl]; exact .inl ⟨h0, rfl, [], rfl⟩
  rw [if_neg hl]
  cases hp : parseCommand line with
  | invalid => exact .inl ⟨h0, rfl, [], rfl⟩
  | ok c args =>
    simp only []
    -- the handler starts with `rest` to read and the flags of `w`
    have g := good_handle c args { w with out := w.out ++ [Seg.text (str "ftp> ")], stdin := rest }
    have hx : c = .exit →
        (handle c args { w with out := w.out ++ [Seg.text (str "ftp> ")], stdin := rest }).2.stdin = rest :=
      fun hc => by subst hc; exact handle_exit_stdin _ _
    generalize handle c args _ = r at g hx
    rcases r with ⟨r, w'⟩
    obtain ⟨⟨p1, p2, pre, p3⟩, geof⟩ := g
    cases r with
    | ok a =>
      simp only []
      by_cases hc : c = .exit
      · rw [if_pos hc]
        exact .inr (.inr ⟨rfl, rfl, hx hc, args, hc ▸ rfl⟩)
      · rw [if_neg hc]
        exact .inl ⟨p1.trans h0, p2, pre, p3⟩
    | cmdErr _ | ftpErr => exact .inl ⟨p1.trans h0, p2, pre, p3⟩
    | eof => exact .inr (.inl ⟨rfl, rfl, geof rfl⟩)

theorem run_of_ended (n : Nat) (w : AppWorld) (h : w.ended = true) : run n w = w := by
  cases n <;> simp [run, h]

theorem run_spec : ∀ (n : Nat) (w : AppWorld), w.ended = false → w.status = 0 → w.stdin.length < n →
    (run n w).ended = true ∧ (run n w).status = 0 ∧
    ((run n w).stdin = [] ∨
      ∃ pre line args, w.stdin = pre ++ line :: (run n w).stdin ∧ parseCommand line = .ok .exit args) := by
  intro n
  induction n with
  | zero => intro w _ _ h; omega
  | succ n ih =>
    intro w h0 hs hlen
    have hrun : run (n + 1) w = run n (step w) := by simp [run, h0]
    rw [hrun]
    cases hstd : w.stdin with
    | nil =>
      have := step_nil w hstd
      have he : (step w).ended = true := by rw [this]
      rw [run_of_ended n _ he, this]
      exact ⟨rfl, rfl, .inl hstd⟩
    | cons line rest =>
      rcases step_cons_spec w line rest hstd h0 with ⟨e1, e2, pre, e3⟩ | ⟨e1, e2, e3⟩ | ⟨e1, e2, e3, args, e4⟩
      · have hl : (step w).stdin.length < n := by
          have : w.stdin.length = (pre ++ (step w).stdin).length + 1 := by rw [hstd, e3]; simp
          simp at this; omega
        obtain ⟨r1, r2, r3⟩ := ih (step w) e1 (e2.trans hs) hl
        refine ⟨r1, r2, ?_⟩
        rcases r3 with r3 | ⟨pre', line', args', r3, r4⟩
        · exact .inl r3
        · refine .inr ⟨line :: pre ++ pre', line', args', ?_, r4⟩
          rw [e3, r3]; simp
      · rw [run_of_ended n _ e1]; exact ⟨e1, e2, .inl e3⟩
      · rw [run_of_ended n _ e1]
        exact ⟨e1, e2, .inr ⟨[], line, args, by rw [e3]; rfl, e4⟩⟩

end Ftp.App.L

