import Ftp.Spec.History
import Ftp.Lemmas.ClientTrace
/-
  Histories.  One induction over the list of calls (`history_rel`) carries every preorder that the environment steps
  and the calls respect from the single call to the history; `history_grew` is its form for the relations "the trace
  grew by a `δ` with `G`" of `ClientTrace`.
-/
namespace Ftp.Session.Hist
open Ftp.Client Ftp.Client.TraceL
open Ftp.Client.CtlL (IsPre)

/-- a preorder `R` that holds of every environment step and of every call (from states satisfying an invariant `I`
    that both keep) holds from the initial state to the final state and to the state in which any call starts -/
theorem history_rel {I : World → Prop} {R : World → World → Prop} [IsPre R] {h : List Call}
    (env : ∀ c ∈ h, ∀ w, I w → I (c.before w) ∧ R w (c.before w))
    (call : ∀ c ∈ h, ∀ w, I w → I (after c.op.run w) ∧ R w (after c.op.run w))
    {w : World} (hw : I w) :
    (I (runHistory h w) ∧ R w (runHistory h w)) ∧ ∀ w' ∈ starts h w, I w' ∧ R w w' := by
  induction h generalizing w with
  | nil => exact ⟨⟨hw, IsPre.refl w⟩, fun _ hw' => nomatch hw'⟩
  | cons c rest ih =>
    obtain ⟨e1, e2⟩ := env c List.mem_cons_self w hw
    obtain ⟨c1, c2⟩ := call c List.mem_cons_self _ e1
    obtain ⟨⟨i1, i2⟩, i3⟩ := ih (fun c' hc' => env c' (List.mem_cons_of_mem _ hc'))
      (fun c' hc' => call c' (List.mem_cons_of_mem _ hc')) (w := c.after w) c1
    have ec : R w (c.after w) := IsPre.trans e2 c2
    exact ⟨⟨i1, IsPre.trans ec i2⟩, List.forall_mem_cons.mpr
      ⟨⟨e1, e2⟩, fun w' hw' => ⟨(i3 w' hw').1, IsPre.trans ec (i3 w' hw').2⟩⟩⟩

/-- ... for a fair history and a relation `Grew G`: what the history added satisfies `G` -/
theorem history_grew {I : World → Prop} {G : World → List Ev → World → Prop} [Mon G] {h : List Call}
    (hfair : ∀ c ∈ h, c.fair)
    (env : ∀ c ∈ h, ∀ w, I w → I (c.before w) ∧ G w [] (c.before w))
    (call : ∀ c ∈ h, ∀ w, I w → I (after c.op.run w) ∧ Grew G w (after c.op.run w))
    {w : World} (hw : I w) :
    (I (runHistory h w) ∧ G w (histAdded h w) (runHistory h w)) ∧
    ∀ w' ∈ starts h w, I w' ∧ G w (w'.trace.drop w.trace.length) w' := by
  have := history_rel (I := I) (R := Grew G) (h := h)
    (fun c hc w hi => ⟨(env c hc w hi).1, [], by rw [List.append_nil]; exact (hfair c hc w).trace, (env c hc w hi).2⟩)
    call hw
  exact ⟨⟨this.1.1, this.1.2.drop⟩, fun w' hw' => ⟨(this.2 w' hw').1, (this.2 w' hw').2.drop⟩⟩

theorem call_trace (c : Call) (hf : c.fair) (w : World) :
    (c.after w).trace = w.trace ++ added c.op.run (c.before w) := by
  have h := run_trace c.op (c.env w)
  rwa [(hf w).trace] at h

theorem history_trace (h : List Call) (hfair : ∀ c ∈ h, c.fair) (w : World) :
    (runHistory h w).trace = w.trace ++ histAdded h w :=
  (history_rel (I := fun _ => True) (R := Grew fun _ _ _ => True) (h := h)
    (fun c hc w _ => ⟨trivial, [], by rw [List.append_nil]; exact (hfair c hc w).trace, trivial⟩)
    (fun c _ w _ => ⟨trivial, _, run_trace c.op w, trivial⟩) (w := w) trivial).1.2.trace

theorem histAdded_nil (w : World) : histAdded [] w = [] := by simp [histAdded, runHistory]

theorem histAdded_cons (c : Call) (rest : List Call) (hfair : ∀ c' ∈ c :: rest, c'.fair) (w : World) :
    histAdded (c :: rest) w = added c.op.run (c.before w) ++ histAdded rest (c.after w) := by
  have h1 := history_trace rest (fun c' hc' => hfair c' (List.mem_cons_of_mem _ hc')) (c.after w)
  rw [call_trace c (hfair c List.mem_cons_self), List.append_assoc] at h1
  show (runHistory rest (c.after w)).trace.drop w.trace.length = _
  rw [h1, List.drop_left]

end Ftp.Session.Hist
