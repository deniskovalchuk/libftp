import Ftp.Props.C10
import Ftp.Props.C11
/-
  C10 with a TLS context: "login sends USER, then PASS only after 331, stops at the first negative reply and on success
  sends - with TLS configured PBSZ 0 and PROT P first - TYPE I or TYPE A", and connect = greeting, AUTH TLS, handshake,
  login.  Model: `Ftp.ClientTls.loginT` / `connectT`; reference: `Ftp.Spec.loginLinesTls` / `connectLinesTls`.
-/
namespace Ftp.Props.C10
open Ftp.Client Ftp.ClientTls Ftp.Session Ftp.Props.C11

/-- the replies framed on the control channel during a TLS-level trace -/
def repliesT (tr : List EvT) : List Reply := tr.filterMap fun | .ev _ (.ctlReply c t) => some ⟨c, t⟩ | _ => none

/-! ### transport of the plain-level facts through `lift` -/

private theorem bindT_ok {α β} {m : MT α} {f : α → MT β} {w w' : WorldT} {b : β} :
    (m >>= f) w = (.ok b, w') ↔ ∃ a w1, m w = (.ok a, w1) ∧ f a w1 = (.ok b, w') := by
  rw [L.bindT_eq]
  rcases m w with ⟨a | _, w1⟩ <;> simp [and_assoc]

private theorem pureT_ok {α} {a b : α} {w w' : WorldT} : (pure a : MT α) w = (.ok b, w') ↔ a = b ∧ w = w' := by
  show ((Res.ok a, w) = (Res.ok b, w')) ↔ _
  simp

private theorem throwT_ok {α} {b : α} {w w' : WorldT} : (throwT : MT α) w = (.ok b, w') ↔ False := by
  simp [throwT]

private theorem getT_ok {a w w' : WorldT} : getT w = (.ok a, w') ↔ w = a ∧ w = w' := by
  simp [getT]

private theorem modifyT_ok {f : WorldT → WorldT} {u : Unit} {w w' : WorldT} : modifyT f w = (.ok u, w') ↔ w' = f w := by
  simp [modifyT]; constructor <;> (intro h; exact h.symm)

private theorem repliesT_append (a b : List EvT) : repliesT (a ++ b) = repliesT a ++ repliesT b := by
  simp [repliesT, List.filterMap_append]

private theorem repliesT_map (t : Bool) (evs : List Ev) : repliesT (evs.map (EvT.ev t)) = received evs := by
  unfold repliesT received
  rw [List.filterMap_map]
  exact congrArg (List.filterMap · evs) (funext fun e => by cases e <;> rfl)

/-- from `w` to `w'` the TLS-level trace grew by events whose control writes are `ws` and whose framed replies are `rs` -/
private def ExtT (w w' : WorldT) (ws : List Bytes) (rs : List Reply) : Prop :=
  ∃ evs, w'.trace = w.trace ++ evs ∧ allWrites evs = ws ∧ repliesT evs = rs

private theorem ExtT.refl (w : WorldT) : ExtT w w [] [] := ⟨[], by simp, rfl, rfl⟩

private theorem ExtT.trans {a b c : WorldT} {ws ws' : List Bytes} {rs rs' : List Reply} (h1 : ExtT a b ws rs)
    (h2 : ExtT b c ws' rs') : ExtT a c (ws ++ ws') (rs ++ rs') := by
  obtain ⟨e1, t1, a1, b1⟩ := h1
  obtain ⟨e2, t2, a2, b2⟩ := h2
  exact ⟨e1 ++ e2, by rw [t2, t1, List.append_assoc], by rw [← a1, ← a2]; exact L.allWrites_append e1 e2,
    by rw [repliesT_append, b1, b2]⟩

private theorem ExtT.added {α} {m : MT α} {w : WorldT} {ws : List Bytes} {rs : List Reply}
    (h : ExtT w (afterT m w) ws rs) : allWrites (addedT m w) = ws ∧ repliesT (addedT m w) = rs := by
  obtain ⟨evs, t, a, b⟩ := h
  unfold addedT
  rw [t, List.drop_left]
  exact ⟨a, b⟩

/-- what a lifted step leaves alone -/
private def Same (w w' : WorldT) : Prop :=
  w'.tlsCtx = w.tlsCtx ∧ w'.ctlSsl = w.ctlSsl ∧ w'.ctlTls = w.ctlTls

private theorem Same.refl (w : WorldT) : Same w w := ⟨rfl, rfl, rfl⟩
private theorem Same.trans {a b c : WorldT} (h1 : Same a b) (h2 : Same b c) : Same a c :=
  ⟨h2.1.trans h1.1, h2.2.1.trans h1.2.1, h2.2.2.trans h1.2.2⟩

private theorem lift_ok {α} {m : M α} {w w' : WorldT} {a : α} (h : lift m w = (.ok a, w')) :
    ∃ b, m { w.base with trace := [] } = (.ok a, b) ∧ w'.base = { b with trace := w.base.trace } ∧
      w'.trace = w.trace ++ b.trace.map (EvT.ev w.ctlTls) ∧ Same w w' := by
  obtain ⟨h1, rfl⟩ := Lift.lift_ok h
  exact ⟨_, h1, rfl, rfl, rfl, rfl, rfl⟩

private theorem lift_ext {α} {m : M α} {w w' : WorldT} {a : α} {ws : List Bytes} {rs : List Reply}
    (h : lift m w = (.ok a, w')) (hx : ∀ b, m { w.base with trace := [] } = (.ok a, b) →
      CtlL.Ext { w.base with trace := [] } b ws rs ∧ b.ttype = w.base.ttype) :
    ExtT w w' ws rs ∧ Same w w' ∧ w'.base.ttype = w.base.ttype := by
  obtain ⟨b, hm, hb, ht, hs⟩ := lift_ok h
  obtain ⟨⟨evs, t, a1, a2⟩, htt⟩ := hx b hm
  simp only [List.nil_append] at t
  refine ⟨⟨_, ht, ?_, ?_⟩, hs, by rw [hb]; exact htt⟩
  · rw [show allWrites _ = writes b.trace from L.allWrites_map _ _, t, a1]
  · rw [repliesT_map, t, a2]

private theorem pciT_ok {cmd : Bytes} {rs rs' : Replies} {w w' : WorldT} {r : Reply}
    (h : processCommandIntoT cmd rs w = (.ok (r, rs'), w')) :
    rs' = rs.append r ∧ ExtT w w' [cmd ++ CRLF] [r] ∧ r.code < 1000 ∧ Same w w' ∧ w'.base.ttype = w.base.ttype := by
  unfold processCommandIntoT at h
  obtain ⟨b, hm, _⟩ := lift_ok h
  obtain ⟨e, _, l⟩ := CtlL.processCommandInto_ext hm
  obtain ⟨x, s, t⟩ := lift_ext (ws := [cmd ++ CRLF]) (rs := [r]) h (fun b hb =>
    ⟨(CtlL.processCommandInto_ext hb).2.1, ((SessL.processCommandInto_step _ _).of_eq hb).ttype⟩)
  exact ⟨e, x, l, s, t⟩

private theorem recvT_ok {rs rs' : Replies} {w w' : WorldT} {r : Reply}
    (h : lift (recvInto rs) w = (.ok (r, rs'), w')) :
    rs' = rs.append r ∧ ExtT w w' [] [r] ∧ r.code < 1000 ∧ Same w w' ∧ w'.base.ttype = w.base.ttype := by
  obtain ⟨b, hm, _⟩ := lift_ok h
  obtain ⟨e, _, l⟩ := CtlL.recvInto_ext hm
  obtain ⟨x, s, t⟩ := lift_ext (ws := []) (rs := [r]) h (fun b hb =>
    ⟨(CtlL.recvInto_ext hb).2.1, ((SessL.recvInto_step _).of_eq hb).ttype⟩)
  exact ⟨e, x, l, s, t⟩

private theorem liftMkCmd_ok {v : String} {a : Option Bytes} {c : Bytes} {w w' : WorldT}
    (h : lift (mkCmd v a) w = (.ok c, w')) : Endpoint.makeCommand (str v) a = some c ∧ w = w' := by
  rw [L.lift_mkCmd] at h
  cases hm : Endpoint.makeCommand (str v) a with
  | none => rw [hm] at h; simp at h
  | some c' => rw [hm] at h; simpa using h

/-! ### an exchange on whose negative reply the call ends -/

/-- `l`, then - the reply to it not being negative - `T` of the codes that follow -/
private def andThen (l : Bytes) (T : List Nat → List Bytes) (codes : List Nat) : List Bytes :=
  l :: match codes with
    | [] => []
    | c :: rest => if Spec.negative c then [] else T rest

/-- the exchange of `c`; on a negative reply the call returns (`stop`), otherwise it goes on with `k` -/
private def thenT {β} (c : Bytes) (rs : Replies) (stop : Reply × Replies → β) (k : Replies → MT β) : MT β := do
  let (r, rs) ← processCommandIntoT c rs
  if r.isNegative then pure (stop (r, rs)) else k rs

private theorem thenT_spec {β} {c : Bytes} {rs : Replies} {stop : Reply × Replies → β} {k : Replies → MT β}
    {sel : β → Replies} (T : List Nat → List Bytes) {w w' : WorldT} {b : β} (hsel : ∀ x, sel (stop x) = x.2)
    (hk : ∀ r1 w1, Same w w1 → w1.base.ttype = w.base.ttype → k (rs.append r1) w1 = (.ok b, w') →
      ∃ ws rl, ExtT w1 w' ws rl ∧ (sel b).list = (rs.append r1).list ++ rl ∧ ws.map lineOf = T (rl.map (·.code)))
    (h : thenT c rs stop k w = (.ok b, w')) :
    ∃ ws rl, ExtT w w' ws rl ∧ (sel b).list = rs.list ++ rl ∧ ws.map lineOf = andThen c T (rl.map (·.code)) := by
  unfold thenT at h
  simp only [bindT_ok] at h
  obtain ⟨⟨r1, rs1⟩, w1, h1, h⟩ := h
  obtain ⟨rfl, x1, l1, s1, t1⟩ := pciT_ok h1
  dsimp only at h
  by_cases hn : r1.isNegative = true
  · rw [if_pos hn] at h
    obtain ⟨rfl, rfl⟩ := pureT_ok.1 h
    rw [CtlL.neg_eq l1] at hn
    exact ⟨_, _, x1, by simp [hsel], by simp [andThen, hn]⟩
  · rw [if_neg hn] at h
    rw [CtlL.neg_eq l1] at hn
    obtain ⟨ws, rl, x2, e2, hw⟩ := hk r1 w1 s1 t1 h
    exact ⟨_, _, x1.trans x2, by rw [e2]; simp, by simp [andThen, hn, hw]⟩

private theorem typeT_spec {s : Spec.Settings} {t : TType} {rs rs' : Replies} {w w' : WorldT} {r : Reply}
    (hs : s.asciiType = (t == .ascii)) (h : processCommandIntoT (typeCommand t) rs w = (.ok (r, rs'), w')) :
    ∃ ws rl, ExtT w w' ws rl ∧ rs'.list = rs.list ++ rl ∧ ws.map lineOf = [Spec.typeLine s] := by
  obtain ⟨rfl, x, _⟩ := pciT_ok h
  exact ⟨_, _, x, by simp, by simpa using CtlL.typeCommand_line s _ hs⟩

/-! ### login -/

/-- the command lines of the TLS login after the credentials were accepted (`rest`: the codes received from there on) -/
private def tlsTail (s : Spec.Settings) (rest : List Nat) : List Bytes :=
  str "PBSZ 0" :: (match rest with
    | [] => []
    | c :: rest' => if Spec.negative c then [] else
      str "PROT P" :: (match rest' with
        | [] => []
        | c' :: _ => if Spec.negative c' then [] else [Spec.typeLine s]))

private theorem loginLinesTls_eq (s : Spec.Settings) (user pass : Bytes) (codes : List Nat) :
    Spec.loginLinesTls s user pass codes =
      match codes with
      | [] => [Spec.line "USER" (some user)]
      | c1 :: rest =>
        if c1 = 331 then
          Spec.line "USER" (some user) :: Spec.line "PASS" (some pass) ::
            (match rest with
             | [] => []
             | c2 :: rest' => if Spec.negative c2 then [] else tlsTail s rest')
        else if Spec.negative c1 then [Spec.line "USER" (some user)]
        else Spec.line "USER" (some user) :: tlsTail s rest := rfl

/-- `processLoginT` after the USER / PASS exchange -/
private def loginTailT (x : Reply × Replies) : MT (Reply × Replies) :=
  if x.1.isNegative then pure x
  else do
    let w ← getT
    if w.tlsCtx then
      thenT (str "PBSZ 0") x.2 id fun rs => thenT (str "PROT P") rs id (processCommandIntoT (typeCommand w.base.ttype))
    else processCommandIntoT (typeCommand w.base.ttype) x.2

private theorem loginTailT_spec {rs2 rs' : Replies} {w2 w' : WorldT} {r r2 : Reply} (s : Spec.Settings)
    (hs : s.asciiType = (w2.base.ttype == .ascii)) (hl : r2.code < 1000)
    (h : loginTailT (r2, rs2) w2 = (.ok (r, rs'), w')) :
    ∃ ws rl, ExtT w2 w' ws rl ∧ rs'.list = rs2.list ++ rl ∧
      ws.map lineOf = (if Spec.negative r2.code then []
        else if w2.tlsCtx then tlsTail s (rl.map (·.code)) else [Spec.typeLine s]) := by
  rw [← CtlL.neg_eq hl]
  unfold loginTailT at h
  dsimp only at h
  by_cases hneg : r2.isNegative = true
  · simp only [if_pos hneg] at h ⊢
    obtain ⟨hx, rfl⟩ := pureT_ok.1 h
    obtain ⟨rfl, rfl⟩ := Prod.mk.inj hx
    exact ⟨[], [], ExtT.refl _, by simp, rfl⟩
  · simp only [if_neg hneg, bindT_ok, getT_ok] at h ⊢
    obtain ⟨_, _, ⟨rfl, rfl⟩, h⟩ := h
    by_cases htls : w2.tlsCtx = true
    · simp only [if_pos htls] at h ⊢
      exact thenT_spec (sel := Prod.snd) _ (fun _ => rfl) (fun _ _ _ _ h => thenT_spec (sel := Prod.snd) _ (fun _ => rfl)
        (fun _ _ _ _ h => typeT_spec hs h) h) h
    · simp only [if_neg htls] at h ⊢
      exact typeT_spec hs h

private theorem processLoginT_spec {u p : Bytes} {rs rs' : Replies} {w w' : WorldT} {r : Reply} (s : Spec.Settings)
    (hs : s.asciiType = (w.base.ttype == .ascii))
    (h : processLoginT u p rs w = (.ok (r, rs'), w')) :
    ∃ ws rl, ExtT w w' ws rl ∧ rs'.list = rs.list ++ rl ∧
      ws.map lineOf = (if w.tlsCtx then Spec.loginLinesTls s u p (rl.map (·.code))
        else Spec.loginLines s u p (rl.map (·.code))) := by
  unfold processLoginT at h
  simp only [bindT_ok] at h
  obtain ⟨cu, wa, hcu, cp, wb, hcp, ⟨r1, rs1⟩, w1, h1, h⟩ := h
  obtain ⟨mcu, rfl⟩ := liftMkCmd_ok hcu
  obtain ⟨mcp, rfl⟩ := liftMkCmd_ok hcp
  have ecu := CtlL.makeCommand_line _ _ _ mcu
  have ecp := CtlL.makeCommand_line _ _ _ mcp
  obtain ⟨rfl, x1, l1, s1, t1⟩ := pciT_ok h1
  dsimp only at h
  by_cases h331 : (r1.code == 331) = true
  · rw [if_pos h331] at h
    simp only [bindT_ok] at h
    obtain ⟨⟨r2, rs2⟩, w2, h2, h⟩ := h
    obtain ⟨rfl, x2, l2, s2, t2⟩ := pciT_ok h2
    have h' : loginTailT (r2, (rs.append r1).append r2) w2 = (.ok (r, rs'), w') := h
    obtain ⟨ws, rl, x3, e3, hw⟩ := loginTailT_spec s (by rw [hs, t2, t1]) l2 h'
    refine ⟨_, _, (x1.trans x2).trans x3, by rw [e3]; simp, ?_⟩
    have : r1.code = 331 := by simpa using h331
    rw [(s1.trans s2).1] at hw
    simp only [List.map_append, List.map_cons, List.map_nil, lineOf_cmd, hw, this, Spec.loginLines,
      loginLinesTls_eq, ecu, ecp]
    cases w.tlsCtx <;> simp
  · rw [if_neg h331] at h
    have h' : loginTailT (r1, rs.append r1) w1 = (.ok (r, rs'), w') := h
    obtain ⟨ws, rl, x3, e3, hw⟩ := loginTailT_spec s (by rw [hs, t1]) l1 h'
    refine ⟨_, _, x1.trans x3, by rw [e3]; simp, ?_⟩
    have : r1.code ≠ 331 := by simpa using h331
    rw [s1.1] at hw
    simp only [List.map_cons, lineOf_cmd, hw, Spec.loginLines, loginLinesTls_eq,
      ecu, List.cons_append, List.nil_append]
    rw [if_neg this, if_neg this]
    cases w.tlsCtx <;> simp <;> split <;> simp

private theorem runT_eq {α} (m : MT α) (w : WorldT) (a : α) (h : resultT m w = .ok a) : m w = (.ok a, afterT m w) := by
  unfold resultT at h
  unfold afterT
  rw [← h]

private theorem loginT_spec {u p : Bytes} {rs : Replies} {w w' : WorldT} (s : Spec.Settings)
    (hs : s.asciiType = (w.base.ttype == .ascii))
    (h : loginT u p w = (.ok rs, w')) :
    ExtT w w' (allWrites (w'.trace.drop w.trace.length)) rs.list ∧
      (allWrites (w'.trace.drop w.trace.length)).map lineOf =
        (if w.tlsCtx then Spec.loginLinesTls s u p (rs.list.map (·.code))
          else Spec.loginLines s u p (rs.list.map (·.code))) := by
  unfold loginT at h
  simp only [bindT_ok, pureT_ok] at h
  obtain ⟨⟨r, rs'⟩, w1, h1, rfl, rfl⟩ := h
  obtain ⟨ws, rl, x, e, hw⟩ := processLoginT_spec s hs h1
  have e' : rs'.list = rl := by simpa [Replies.empty] using e
  obtain ⟨evs, t, a1, a2⟩ := id x
  rw [t, List.drop_left, a1, e']
  exact ⟨x, hw⟩

/-! ### connect -/

private def credLines (s : Spec.Settings) (cred : Option (Bytes × Bytes)) (rest : List Nat) : List Bytes :=
  match cred with
  | some (u, p) => Spec.loginLinesTls s u p rest
  | none => []

private theorem ext_hs (w w' : WorldT) (ok : Bool) (h : w'.trace = w.trace ++ [EvT.ctlTlsHandshake ok]) :
    ExtT w w' [] [] := ⟨_, h, rfl, rfl⟩

private def connectRefT (s : Spec.Settings) (cred : Option (Bytes × Bytes)) (g : Nat) (rest : List Nat) : List Bytes :=
  if Spec.negative g then [] else andThen (str "AUTH TLS") (credLines s cred) rest

private theorem connectLinesTls_1 (s : Spec.Settings) (cred : Option (Bytes × Bytes)) (g : Nat) (rest : List Nat)
    (hg : g ≠ 120) : Spec.connectLinesTls s cred (g :: rest) true = connectRefT s cred g rest := by
  unfold Spec.connectLinesTls connectRefT
  simp [hg]
  rfl

private theorem connectLinesTls_2 (s : Spec.Settings) (cred : Option (Bytes × Bytes)) (g : Nat) (rest : List Nat) :
    Spec.connectLinesTls s cred (120 :: g :: rest) true = connectRefT s cred g rest := by
  unfold Spec.connectLinesTls connectRefT
  simp
  rfl

private def afterTlsT (cred : Option (Bytes × Bytes)) (rs : Replies) : MT Replies :=
  match cred with
  | some (u, p) => do let (_, rs) ← processLoginT u p rs; pure rs
  | none => pure rs

/-- `connectT` after the greeting -/
private def connectTailT (cred : Option (Bytes × Bytes)) (x : Reply × Replies) : MT Replies :=
  if x.1.isNegative then pure x.2
  else do
    let w ← getT
    if w.tlsCtx then
      thenT (str "AUTH TLS") x.2 Prod.snd fun rs => do
        modifyT fun w => { w with ctlSsl := true }
        let ok ← nextHandshake
        emitT (.ctlTlsHandshake ok)
        if !ok then throwT
        else
          modifyT fun w => { w with ctlTls := true }
          afterTlsT cred rs
    else afterTlsT cred x.2

private theorem afterTlsT_spec {cred : Option (Bytes × Bytes)} {rs1 rs : Replies} {w w' : WorldT} (s : Spec.Settings)
    (hs : s.asciiType = (w.base.ttype == .ascii)) (htls : w.tlsCtx = true)
    (h : afterTlsT cred rs1 w = (.ok rs, w')) :
    ∃ ws rl, ExtT w w' ws rl ∧ rs.list = rs1.list ++ rl ∧
      ws.map lineOf = credLines s cred (rl.map (·.code)) := by
  unfold afterTlsT at h
  unfold credLines
  rcases cred with _ | ⟨u, p⟩
  · simp only [pureT_ok] at h
    obtain ⟨rfl, rfl⟩ := h
    exact ⟨[], [], ExtT.refl _, by simp, by simp⟩
  · simp only [bindT_ok, pureT_ok] at h
    obtain ⟨⟨r3, rs3⟩, w3, h3, rfl, rfl⟩ := h
    obtain ⟨ws, rl, x3, e3, hw⟩ := processLoginT_spec s hs h3
    rw [if_pos htls] at hw
    exact ⟨ws, rl, x3, e3, hw⟩

private theorem connectTailT_spec {cred : Option (Bytes × Bytes)} {rs1 rs : Replies} {w w' : WorldT} {r : Reply}
    (s : Spec.Settings) (hs : s.asciiType = (w.base.ttype == .ascii))
    (htls : w.tlsCtx = true) (hl : r.code < 1000)
    (h : connectTailT cred (r, rs1) w = (.ok rs, w')) :
    ∃ ws rl, ExtT w w' ws rl ∧ rs.list = rs1.list ++ rl ∧
      ws.map lineOf = connectRefT s cred r.code (rl.map (·.code)) := by
  unfold connectTailT at h
  unfold connectRefT
  dsimp only at h
  rw [← CtlL.neg_eq hl]
  by_cases hneg : r.isNegative = true
  · simp only [if_pos hneg] at h ⊢
    obtain ⟨rfl, rfl⟩ := pureT_ok.1 h
    exact ⟨[], [], ExtT.refl _, by simp, rfl⟩
  · simp only [if_neg hneg, bindT_ok, getT_ok] at h ⊢
    obtain ⟨_, _, ⟨rfl, rfl⟩, h⟩ := h
    rw [if_pos htls] at h
    refine thenT_spec (sel := id) _ (fun _ => rfl) (fun r4 w4 s4 t4 h => ?_) h
    unfold nextHandshake at h
    simp only [bindT_ok, getT_ok, modifyT_ok, pureT_ok, emitT] at h
    obtain ⟨_, w5, rfl, ok, w6, ⟨_, _, ⟨rfl, rfl⟩, _, w7, rfl, hok, rfl⟩, _, w8, rfl, h⟩ := h
    split at h
    · exact (throwT_ok.1 h).elim
    · simp only [bindT_ok, modifyT_ok] at h
      obtain ⟨_, w9, rfl, h⟩ := h
      obtain ⟨ws, rl, x5, e5, hw⟩ := afterTlsT_spec (cred := cred) s (by rw [hs, ← t4])
        (by show w4.tlsCtx = true; rw [s4.1, htls]) h
      exact ⟨_, _, (ext_hs _ _ ok rfl).trans x5, by simpa using e5, by simpa using hw⟩

private theorem openBlock_rg (host : Bytes) (port : Nat) :
    CtlL.Keeps (Walk.Own World.ttype CtlL.P0) (TraceL.connectOpen host port) := by
  unfold TraceL.connectOpen; own_walk []

private theorem connectBody_spec {host : Bytes} {port : Nat} {cred : Option (Bytes × Bytes)} {w w' : WorldT}
    {rs : Replies} (s : Spec.Settings) (hs : s.asciiType = (w.base.ttype == .ascii)) (htls : w.tlsCtx = true)
    (h : L.connectBody host port cred w = (.ok rs, w')) :
    ∃ ws, ExtT w w' ws rs.list ∧ ws.map lineOf = Spec.connectLinesTls s cred (rs.list.map (·.code)) true := by
  unfold L.connectBody at h
  simp only [bindT_ok, modifyT_ok] at h
  obtain ⟨_, w0, rfl, _, w1, h1, ⟨r2, rs2⟩, w2, h2, h⟩ := h
  have x0 : ExtT w { w with ctlTls := false, ctlSsl := false } [] [] := ⟨[], by simp, rfl, rfl⟩
  obtain ⟨x1, s1, t1⟩ := lift_ext (ws := []) (rs := []) h1 (fun b hb =>
    ⟨CtlL.Ext.of_own (fun _ h => h) (openBlock_rg host port) hb, ((openBlock_rg host port).of_eq hb).1⟩)
  obtain ⟨rfl, x2, l2, s2, t2⟩ := recvT_ok h2
  dsimp only at h
  have s02 := s1.trans s2
  by_cases h120 : (r2.code == 120) = true
  · rw [if_pos h120] at h
    simp only [bindT_ok] at h
    obtain ⟨⟨r3, rs3⟩, w3, h3, h⟩ := h
    obtain ⟨rfl, x3, l3, s3, t3⟩ := recvT_ok h3
    have h' : connectTailT cred (r3, (Replies.empty.append r2).append r3) w3 = (.ok rs, w') := h
    obtain ⟨ws, rl, x4, e4, hw⟩ :=
      connectTailT_spec s (by rw [hs, t3, t2, t1]) (by rw [(s02.trans s3).1]; exact htls) l3 h'
    refine ⟨_, by simpa [e4, Replies.empty] using (((x0.trans x1).trans x2).trans x3).trans x4, ?_⟩
    rw [e4, hw]
    simp only [Replies.empty, CtlL.append_list, List.nil_append, List.map_cons, List.cons_append,
      show r2.code = 120 by simpa using h120]
    rw [connectLinesTls_2]
  · rw [if_neg h120] at h
    have h' : connectTailT cred (r2, Replies.empty.append r2) w2 = (.ok rs, w') := h
    obtain ⟨ws, rl, x4, e4, hw⟩ := connectTailT_spec s (by rw [hs, t2, t1]) (by rw [s02.1]; exact htls) l2 h'
    refine ⟨_, by simpa [e4, Replies.empty] using ((x0.trans x1).trans x2).trans x4, ?_⟩
    rw [e4, hw]
    simp only [Replies.empty, CtlL.append_list, List.nil_append, List.map_cons, List.cons_append]
    rw [connectLinesTls_1 _ _ _ _ (by simpa using h120)]

private theorem connectDropT_ok {w w1 : WorldT} {u : Unit} (h : L.connectDropT w = (.ok u, w1)) :
    ExtT w w1 [] [] ∧ w1.tlsCtx = w.tlsCtx ∧ w1.base.ttype = w.base.ttype := by
  unfold L.connectDropT at h
  simp only [bindT_ok, getT_ok] at h
  obtain ⟨_, _, ⟨rfl, rfl⟩, h⟩ := h
  split at h
  · simp only [bindT_ok, emitT, modifyT_ok] at h
    obtain ⟨_, _, rfl, rfl⟩ := h
    exact ⟨⟨[.ev _ .ctlClose], rfl, rfl, rfl⟩, rfl, rfl⟩
  · obtain ⟨_, rfl⟩ := pureT_ok.mp h
    exact ⟨ExtT.refl _, rfl, rfl⟩

private theorem connectRest_spec {host : Bytes} {port : Nat} {cred : Option (Bytes × Bytes)} {w w' : WorldT}
    {rs : Replies} (s : Spec.Settings) (hs : s.asciiType = (w.base.ttype == .ascii)) (htls : w.tlsCtx = true)
    (h : (L.connectDropT >>= fun _ => L.connectBody host port cred) w = (.ok rs, w')) :
    ∃ ws, ExtT w w' ws rs.list ∧ ws.map lineOf = Spec.connectLinesTls s cred (rs.list.map (·.code)) true := by
  simp only [bindT_ok] at h
  obtain ⟨_, w1, h1, h⟩ := h
  obtain ⟨x1, t1, y1⟩ := connectDropT_ok h1
  obtain ⟨ws, x, hw⟩ := connectBody_spec s (by rw [hs, y1]) (t1.trans htls) h
  exact ⟨ws, by simpa using x1.trans x, hw⟩

private theorem connectT_spec {host : Bytes} {port : Nat} {cred : Option (Bytes × Bytes)} {w w' : WorldT}
    {rs : Replies} (s : Spec.Settings) (hs : s.asciiType = (w.base.ttype == .ascii)) (htls : w.tlsCtx = true)
    (h : connectT host port cred w = (.ok rs, w')) :
    ∃ ws, ExtT w w' ws rs.list ∧ ws.map lineOf = Spec.connectLinesTls s cred (rs.list.map (·.code)) true := by
  rw [L.connectT_eq] at h
  rcases cred with _ | ⟨u, p⟩
  · exact connectRest_spec s hs htls h
  · simp only [bindT_ok] at h
    obtain ⟨_, wa, ha, _, wb, hb, h⟩ := h
    obtain ⟨_, rfl⟩ := liftMkCmd_ok ha
    obtain ⟨_, rfl⟩ := liftMkCmd_ok hb
    exact connectRest_spec s hs htls (bindT_ok.mpr h)

-- the proof does not use `hnb`
set_option linter.unusedVariables false in
/-- login with a TLS context, in a session that is not broken: for every call that returns, whatever the server answers,
    the command lines written are exactly those of the reference automaton driven by the codes of the replies received,
    and the replies returned are the replies received, in order -/
theorem tls_login_follows_reference (u p : Bytes) (w : WorldT) (rs : Replies)
    (htls : w.tlsCtx = true) (hnb : w.ctlSsl = true → w.ctlTls = true)
    (hret : resultT (loginT u p) w = .ok rs) :
    (allWrites (addedT (loginT u p) w)).map lineOf =
      Spec.loginLinesTls (settingsOf w.base) u p ((repliesT (addedT (loginT u p) w)).map (·.code)) ∧
    rs.list = repliesT (addedT (loginT u p) w) := by
  obtain ⟨x, hw⟩ := loginT_spec (settingsOf w.base) rfl (runT_eq _ _ _ hret)
  obtain ⟨_, e2⟩ := ExtT.added x
  rw [if_pos htls] at hw
  rw [e2]
  exact ⟨hw, rfl⟩

-- the proof does not use `hnb`
set_option linter.unusedVariables false in
/-- without a TLS context the TLS-level login is the plain one -/
theorem login_without_context_follows_reference (u p : Bytes) (w : WorldT) (rs : Replies)
    (htls : w.tlsCtx = false) (hnb : w.ctlSsl = true → w.ctlTls = true)
    (hret : resultT (loginT u p) w = .ok rs) :
    (allWrites (addedT (loginT u p) w)).map lineOf =
      Spec.loginLines (settingsOf w.base) u p ((repliesT (addedT (loginT u p) w)).map (·.code)) := by
  obtain ⟨x, hw⟩ := loginT_spec (settingsOf w.base) rfl (runT_eq _ _ _ hret)
  obtain ⟨_, e2⟩ := ExtT.added x
  rw [htls] at hw
  rw [e2]
  exact hw

/-- connect with a TLS context: for every call that returns (the handshake, if reached, succeeded): greeting, AUTH TLS,
    then the login sequence of the reference automaton -/
theorem tls_connect_follows_reference (h : Bytes) (port : Nat) (cred : Option (Bytes × Bytes)) (w : WorldT) (rs : Replies)
    (htls : w.tlsCtx = true)
    (hret : resultT (connectT h port cred) w = .ok rs) :
    (allWrites (addedT (connectT h port cred) w)).map lineOf =
      Spec.connectLinesTls (settingsOf w.base) cred ((repliesT (addedT (connectT h port cred) w)).map (·.code)) true ∧
    rs.list = repliesT (addedT (connectT h port cred) w) := by
  obtain ⟨ws, x, hw⟩ := connectT_spec (settingsOf w.base) rfl htls (runT_eq _ _ _ hret)
  obtain ⟨e1, e2⟩ := ExtT.added x
  rw [e1, e2]
  exact ⟨hw, rfl⟩

end Ftp.Props.C10
