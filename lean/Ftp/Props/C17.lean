import Ftp.Lemmas.ClientTrace
import Ftp.Lemmas.ClientPrim
/-
  C17 - no socket outlives its purpose, whatever the history.
  Model: `Ftp.Client` (data_connection objects owned by the operation, explicit disconnects, destructor).
-/
namespace Ftp.Props.C17
open Ftp.Client Ftp.Session Ftp.Client.TraceL Ftp.Client.Walk
open Ftp.Client.CtlL (IsPre)

/-! ### proof of the descriptor accounting: an invariant linking the trace of the call, `conn` and `nextD` -/

def live : Option DataConn → List Nat
  | none => []
  | some c => c.acc.toList ++ c.sock.toList

/-- the accounting of an extension `δ` of the trace: descriptors opened, or held by the connection object before, are
    closed or held by it afterwards; those opened are distinct and taken from the counter -/
def Acct (w : World) (δ : List Ev) (w' : World) : Prop :=
  w.nextD ≤ w'.nextD ∧
  (∀ d, (opened δ).count d + (live w.conn).count d = (closed δ).count d + (live w'.conn).count d) ∧
  (opened δ).Nodup ∧ ∀ d ∈ opened δ, w.nextD ≤ d ∧ d < w'.nextD

instance mon_acct : Mon Acct where
  nil w := ⟨Nat.le_refl _, fun _ => rfl, List.nodup_nil, fun _ hd => nomatch hd⟩
  app := by
    intro a b c x y ⟨n1, c1, d1, r1⟩ ⟨n2, c2, d2, r2⟩
    unfold Acct
    simp only [opened_append, closed_append, List.count_append]
    refine ⟨by omega, fun d => by have := c1 d; have := c2 d; omega, ?_, fun d hd => ?_⟩
    · -- the descriptors of `x` are below `b.nextD`, those of `y` are not
      refine List.nodup_append.mpr ⟨d1, d2, fun u hu v hv huv => ?_⟩
      have := (r1 u hu).2; have := (r2 v hv).1; omega
    · rcases List.mem_append.mp hd with hd | hd
      · have := r1 d hd; omega
      · have := r2 d hd; omega

/-- between two states without a connection object: what was opened has been closed -/
theorem Acct.balanced {w w' : World} {δ : List Ev} (h : Acct w δ w') (h0 : w.conn = none) (h1 : w'.conn = none) :
    (opened δ).Perm (closed δ) ∧ (opened δ).Nodup := by
  refine ⟨List.perm_iff_count.mpr fun d => ?_, h.2.2.1⟩
  simpa [h0, h1, live] using h.2.1 d

/-- the accounting since `w₀` holds, and `S` of the connection object -/
def I17 (w₀ : World) (S : Option DataConn → Prop) (w : World) : Prop := Grew Acct w₀ w ∧ S w.conn

abbrev Inv (w₀ : World) : World → Prop := I17 w₀ fun _ => True

theorem I17.inv {w₀ w : World} {S : Option DataConn → Prop} (h : I17 w₀ S w) : Inv w₀ w := ⟨h.1, trivial⟩

private theorem nodesc_single (e : Ev) (h : isDesc e = false) : opened [e] = [] ∧ closed [e] = [] := by
  cases e <;> first | exact ⟨rfl, rfl⟩ | cases h

private theorem nodesc_map (f : Nat → Ev) (h : ∀ o, isDesc (f o) = false) (l : List Nat) :
    opened (l.map f) = [] ∧ closed (l.map f) = [] := by
  induction l with
  | nil => exact ⟨rfl, rfl⟩
  | cons x xs ih =>
    have := nodesc_single (f x) (h x)
    rw [List.map_cons, ← List.singleton_append, opened_append, closed_append, this.1, this.2, ih.1, ih.2]
    exact ⟨rfl, rfl⟩

/-- a step that opens nothing: what it closes, the connection object held and holds no longer -/
private theorem grew_close {w w' : World} (ε : List Ev) (ht : w'.trace = w.trace ++ ε) (hn : w'.nextD = w.nextD)
    (ho : opened ε = []) (hl : ∀ d, (live w.conn).count d = (closed ε).count d + (live w'.conn).count d) :
    Grew Acct w w' :=
  ⟨ε, ht, Nat.le_of_eq hn.symm, fun d => by simp [ho, hl d], by simp [ho], by simp [ho]⟩

/-- a step that opens and closes nothing and leaves the connection object alone -/
private theorem i17_quiet {w₀ w w' : World} {S : Option DataConn → Prop} (h : I17 w₀ S w) (ε : List Ev)
    (ht : w'.trace = w.trace ++ ε) (hc : w'.conn = w.conn) (hn : w'.nextD = w.nextD)
    (ho : opened ε = [] ∧ closed ε = []) : I17 w₀ S w' :=
  ⟨IsPre.trans h.1 (grew_close ε ht hn ho.1 fun d => by simp [ho.2, hc]), hc ▸ h.2⟩

private theorem i17_fine (w₀ : World) (S : Option DataConn → Prop) : Fine (I17 w₀ S) := by
  have hmod : ∀ f : World → World, (∀ w, FrameC w (f w)) → Keeps (I17 w₀ S) (modifyW f) := fun f hf =>
    ⟨fun w h => i17_quiet h [] (by simpa using (hf w).1) (hf w).2.1 (hf w).2.2 ⟨rfl, rfl⟩⟩
  have hemit : ∀ e, isDesc e = false → Keeps (I17 w₀ S) (emit e) := fun e he =>
    ⟨fun w h => i17_quiet h [e] rfl rfl rfl (nodesc_single e he)⟩
  have hobs : ∀ f : Nat → Ev, (∀ o, isDesc (f o) = false) → Keeps (I17 w₀ S) (forObservers f) := fun f hf =>
    ⟨fun w h => i17_quiet h _ rfl rfl rfl (nodesc_map f hf _)⟩
  exact Fine.ofC hmod hemit hobs

private theorem i17_atoms (w₀ : World) (S : Option DataConn → Prop) : AtomsA (I17 w₀ S) := (i17_fine w₀ S).atomsA

/-- a step on the connection object from a state in which `S` holds of it: what it does to the accounting, and what
    holds of the object afterwards -/
private theorem hoare_step {α} {m : M α} {S S' : Option DataConn → Prop} (w₀ : World)
    (h : ∀ w, S w.conn → Grew Acct w (m w).2 ∧ S' (m w).2.conn) :
    Hoare (I17 w₀ S) m (fun _ => I17 w₀ S') (I17 w₀ S') := by
  refine ⟨fun w ⟨hi, hs⟩ => ?_⟩
  obtain ⟨h1, h2⟩ := h w hs
  rcases hm : m w with ⟨r, w'⟩
  rw [hm] at h1 h2
  cases r <;> exact ⟨IsPre.trans hi h1, h2⟩

/-- close the goal `Grew Acct w w'` for a concrete successor `w'` of `w`, given what is known of `w.conn` -/
local syntax "acct_tac" " with " (term),* : tactic
local macro_rules
  | `(tactic| acct_tac with $[$ts],*) => `(tactic|
    (refine ⟨_, (by first | exact (List.append_nil _).symm | (simp only [List.append_assoc, List.cons_append, List.nil_append]; rfl)),
      (by simp), ?_, ?_, ?_⟩
     · intro d; simp [opened, closed, live, $[$ts:term],*] <;> grind
     · simp [opened]
     · simp [opened]))

private theorem step_dataConnect (a : Bytes) (p : Nat) (w : World) (h : w.conn = none) :
    Grew Acct w (dataConnect a p w).2 := by
  simp only [dataConnect, newDescriptor, closeD, bind_apply, getW_apply, modifyW_apply, emit_apply, pure_apply,
    throwE_apply, DataL.ite_run]
  split <;> acct_tac with h

private def sockNone (c : Option DataConn) : Prop := ∃ c', c = some c' ∧ c'.sock = none

private theorem step_dataListen (w : World) (h : w.conn = none) :
    Grew Acct w (dataListen w).2 ∧ sockNone (dataListen w).2.conn := by
  simp only [dataListen, newDescriptor, bind_apply, getW_apply, modifyW_apply, emit_apply, pure_apply]
  refine ⟨?_, _, rfl, rfl⟩
  acct_tac with h

private theorem step_dataAccept (w : World) (h : sockNone w.conn) : Grew Acct w (dataAccept w).2 := by
  obtain ⟨c, hc, hs⟩ := h
  simp only [dataAccept, bind_apply, getW_apply, hc]
  cases ha : c.acc with
  | some a =>
    simp only [bind_apply, modifyW_apply, emit_apply]
    acct_tac with hc, hs, ha
  | none => exact IsPre.refl w

private theorem step_dataDisconnect (g : Bool) (w : World) : Grew Acct w (dataDisconnect g w).2 := by
  unfold dataDisconnect
  -- `apply_ite`: a close that reports an error changes the result, not the world, so where the program ends either
  -- way there is one world to look at
  rcases hc : w.conn with _ | ⟨_ | s, _ | a⟩ <;>
    msimp [hc, DataL.closeD_bind, apply_ite Prod.snd, ite_self] <;> (repeat' split) <;>
    first
    | exact IsPre.refl w
    | exact grew_close _ (by first | rfl | (simp only [List.append_assoc]; rfl)) rfl rfl fun d => by
        simp [hc, live, closed, List.count_cons] <;> omega

private theorem step_destroyConn (w : World) : Grew Acct w (destroyConn w).2 ∧ (destroyConn w).2.conn = none := by
  simp only [destroyConn, bind_apply, getW_apply]
  cases hc : w.conn with
  | none => exact ⟨IsPre.refl w, hc⟩
  | some c =>
    simp only []
    cases hs : c.sock <;> simp only [] <;> cases ha : c.acc <;>
      simp only [closeD, bind_apply, getW_apply, modifyW_apply, emit_apply, pure_apply] <;>
      refine ⟨?_, by first | rfl | trivial⟩ <;> acct_tac with hc, hs, ha

private theorem hoare_dataConnect (w₀ : World) (a : Bytes) (p : Nat) :
    Hoare (I17 w₀ (· = none)) (dataConnect a p) (fun _ => Inv w₀) (Inv w₀) :=
  hoare_step w₀ fun w h => ⟨step_dataConnect a p w h, trivial⟩

private theorem hoare_dataListen (w₀ : World) :
    Hoare (I17 w₀ (· = none)) dataListen (fun _ => I17 w₀ sockNone) (Inv w₀) :=
  hoare_conseq (hoare_step w₀ step_dataListen) (fun _ h => h) (fun _ _ h => h) fun _ h => h.inv

private theorem hoare_dataAccept (w₀ : World) : Hoare (I17 w₀ sockNone) dataAccept (fun _ => Inv w₀) (Inv w₀) :=
  hoare_step w₀ fun w h => ⟨step_dataAccept w h, trivial⟩

private theorem keeps_inv_dataDisconnect (w₀ : World) (g : Bool) : Keeps (Inv w₀) (dataDisconnect g) :=
  keeps_of_hoare (hoare_step w₀ fun w _ => ⟨step_dataDisconnect g w, trivial⟩)

private theorem hoare_destroyConn (w₀ : World) :
    Hoare (Inv w₀) destroyConn (fun _ => I17 w₀ (· = none)) (I17 w₀ (· = none)) :=
  hoare_step w₀ fun w _ => step_destroyConn w

private theorem inv_atomsT (w₀ : World) : AtomsT (Inv w₀) where
  toAtomsA := i17_atoms w₀ _
  listing := (i17_fine w₀ _).listing
  ddisc := keeps_inv_dataDisconnect w₀

private theorem hoare_passive (w₀ : World) {β : Type} (verb : String) (parse : Bytes → Option β) (conn : β → M Unit)
    (hconn : ∀ x, Hoare (I17 w₀ (· = none)) (conn x) (fun _ => Inv w₀) (Inv w₀)) (cmd : Bytes) (rs : Replies) :
    Hoare (I17 w₀ (· = none)) (SessL.passive verb parse conn cmd rs) (fun _ => Inv w₀) (Inv w₀) := by
  have A0 := i17_atoms w₀ (· = none)
  have T := inv_atomsT w₀
  have A := T.toAtomsA
  unfold SessL.passive SessL.passiveRest
  refine hoare_bind (hoare_keeps (keeps_mkCmd _ _) fun _ h => h.inv) fun c => ?_
  refine hoare_bind (hoare_keeps (keeps_processCommandInto A0.primsC trivial _) fun _ h => h.inv) fun x => ?_
  split
  split
  · exact hoare_pure _ fun _ h => h.inv
  · split
    · exact hoare_throw fun _ h => h.inv
    · refine hoare_bind (hconn _) fun _ => ?_
      refine hoare_of_keeps ?_
      walk [keeps_processCommandInto A.primsC trivial _, T.ddisc _]

private theorem hoare_activeTail (w₀ : World) (cmd c : Bytes) (rs : Replies) :
    Hoare (I17 w₀ sockNone) (SessL.activeTail c cmd rs) (fun _ => Inv w₀) (Inv w₀) := by
  have A := i17_atoms w₀ sockNone
  unfold SessL.activeTail
  refine hoare_bind (hoare_keeps (keeps_processCommandInto A.primsC trivial _) fun _ h => h.inv) fun x => ?_
  split
  split
  · exact hoare_pure _ fun _ h => h.inv
  · refine hoare_bind (hoare_keeps (keeps_processCommandInto A.primsC trivial _) fun _ h => h.inv) fun x => ?_
    split
    split
    · exact hoare_pure _ fun _ h => h.inv
    · exact hoare_bind (hoare_dataAccept w₀) fun _ => hoare_pure _ fun _ h => h

private theorem hoare_processActive (w₀ : World) (e : Bool) (cmd : Bytes) (rs : Replies) :
    Hoare (I17 w₀ (· = none)) (processActive e cmd rs) (fun _ => Inv w₀) (Inv w₀) := by
  refine ⟨fun w h => ?_⟩
  have hl : I17 w₀ sockNone (SessL.listenW w) := by
    simpa only [SessL.dataListen_run, post_ok] using (hoare_dataListen w₀).h w h
  rw [SessL.processActive_eq]
  cases SessL.activeLine e w with
  | some c => exact (hoare_activeTail w₀ cmd c rs).h _ hl
  | none => exact hl.inv

private theorem hoare_createDataConnection (w₀ : World) (cmd : Bytes) (rs : Replies) :
    Hoare (I17 w₀ (· = none)) (createDataConnection cmd rs) (fun _ => Inv w₀) (Inv w₀) := by
  unfold createDataConnection
  refine hoare_bind (Q := fun _ => I17 w₀ (· = none)) (hoare_getW fun _ h => h) fun w => ?_
  split
  · rw [SessL.processEpsv_eq]
    exact hoare_passive w₀ _ _ _ (fun _ => hoare_bind (Q := fun _ => I17 w₀ (· = none)) (hoare_getW fun _ h => h)
      fun _ => hoare_dataConnect w₀ _ _) _ _
  · rw [SessL.processPasv_eq]
    exact hoare_passive w₀ _ _ _ (fun _ => hoare_dataConnect w₀ _ _) _ _
  · exact hoare_processActive w₀ _ _ _
  · exact hoare_processActive w₀ _ _ _

/-- a transfer: the command, the set-up of the data connection, a tail that keeps the accounting, and the destruction
    of the connection object at scope exit, returned or thrown -/
private theorem keeps_transfer (w₀ : World) {α} (v : String) (a : Option Bytes) {tail : Bool × Replies → M α}
    (ht : ∀ x, Keeps (Inv w₀) (tail x)) :
    Keeps (I17 w₀ (· = none))
      (withScope (mkCmd v a >>= fun c => createDataConnection c Replies.empty >>= tail) destroyConn) :=
  keeps_of_hoare <| hoare_withScope (Q := fun _ => Inv w₀) (E' := Inv w₀)
    (hoare_bind (hoare_keeps (keeps_mkCmd _ _) fun _ h => h.inv) fun _ =>
      hoare_bind (hoare_createDataConnection w₀ _ _) fun x => hoare_of_keeps (ht x))
    (fun _ => hoare_destroyConn w₀) (hoare_destroyConn w₀)

private theorem keeps_run17 (w₀ : World) (op : Op) : Keeps (I17 w₀ (· = none)) op.run := by
  have A0 := i17_atoms w₀ (· = none)
  have T := inv_atomsT w₀
  have A := T.toAtomsA
  refine keeps_runC A0.primsC A0.close op (by cases op <;> first | trivial | exact .inl fun _ => trivial)
    (fun _ _ _ _ => keeps_connect A0.primsC A0.drop A0.copen _ _ _)
    (fun _ _ => keeps_setTransferType A0.primsC _ (A0.mod _ fun _ => ⟨rfl, rfl, rfl, rfl, rfl⟩))
    (fun p cb _ => keeps_transfer w₀ _ _ fun _ => ?_) (fun v p cb _ => keeps_transfer w₀ _ _ fun _ => ?_)
    (fun p n _ => fileList_blocks p n ▸ keeps_transfer w₀ _ _ fun _ => ?_)
  · walk [A.primsX.drecv _ _, keeps_finishTransfer A.primsC T.ddisc A.primsX.poll _ _]
  · walk [A.primsX.dsend _ _, keeps_finishTransfer A.primsC T.ddisc A.primsX.poll _ _]
  · walk [A.primsX.drecv _ _, A.primsX.silence, T.listing _, T.ddisc _, keeps_recvInto A.primsC _]

/-- the accounting of a call that starts without a connection object: the central fact of C17 -/
theorem run_inv (op : Op) (w : World) (h : w.conn = none) : I17 w (· = none) (after op.run w) :=
  (keeps_run17 w op).h w ⟨IsPre.refl w, h⟩

/-! ### proof of the control-socket accounting: a step relation kept by every atomic step -/

/-- a change of `connected` shows in the events added: a connect when it became true, a close when it became false -/
private def Acc (w : World) (δ : List Ev) (w' : World) : Prop :=
  (w'.connected = true → w.connected = false → ∃ h p, Ev.ctlConnect h p ∈ δ) ∧
  (w'.connected = false → w.connected = true → Ev.ctlClose ∈ δ)

private theorem acc_same {w w' : World} (δ : List Ev) (hc : w'.connected = w.connected) : Acc w δ w' := by
  constructor <;> (intro h1 h2; rw [hc, h2] at h1; cases h1)

private instance mon_acc : Mon Acc where
  nil w := acc_same [] rfl
  app := by
    intro a b c x y ⟨hc1, hd1⟩ ⟨hc2, hd2⟩
    refine ⟨fun hc ha => ?_, fun hc ha => ?_⟩
    · cases hb : b.connected with
      | true => obtain ⟨h, p, hm⟩ := hc1 hb ha; exact ⟨h, p, List.mem_append_left _ hm⟩
      | false => obtain ⟨h, p, hm⟩ := hc2 hc hb; exact ⟨h, p, List.mem_append_right _ hm⟩
    · cases hb : b.connected with
      | true => exact List.mem_append_right _ (hd2 hc hb)
      | false => exact List.mem_append_left _ (hd1 hb ha)

private abbrev Racc := Grew Acc

private theorem keeps_acc_mod (w₀ : World) (f : World → World) (h : ∀ w, FrameD w (f w)) : Keeps (Racc w₀) (modifyW f) :=
  CtlL.Keeps.inv (fun w => ⟨[], by simpa using (h w).1, acc_same [] (h w).2.2⟩) w₀

private theorem keeps_acc_emit (w₀ : World) (e : Ev) : Keeps (Racc w₀) (emit e) :=
  CtlL.Keeps.inv (fun _ => ⟨[e], rfl, acc_same _ rfl⟩) w₀

private theorem keeps_acc_obs (w₀ : World) (f : Nat → Ev) : Keeps (Racc w₀) (forObservers f) :=
  CtlL.Keeps.inv (fun _ => ⟨_, rfl, acc_same _ rfl⟩) w₀

private theorem keeps_acc_close (w₀ : World) : Keeps (Racc w₀) ctlClose := by
  refine CtlL.Keeps.inv (fun w => ⟨[.ctlShutdown, .ctlClose], ?_, ?_, ?_⟩) w₀
  · simp [ctlClose]
  · intro h; simp [ctlClose] at h
  · intro _ _; simp

private theorem keeps_acc_drop (w₀ : World) : Keeps (Racc w₀) connectDrop := by
  refine CtlL.Keeps.inv (fun w => ⟨[.ctlClose], ?_, ?_, ?_⟩) w₀
  · simp [connectDrop]
  · intro h; simp [connectDrop] at h
  · intro _ _; simp

private theorem keeps_acc_copen (w₀ : World) (h : Bytes) (p : Nat) : Keeps (Racc w₀) (connectOpen h p) := by
  refine CtlL.Keeps.inv
    (fun w => ⟨[.ctlConnect h p] ++ w.observers.map (fun o => .obsConnected o h p), ?_, ?_, ?_⟩) w₀
  · simp [connectOpen]
  · intro _ _; exact ⟨h, p, by simp⟩
  · intro h; simp [connectOpen] at h

private theorem acc_fine (w₀ : World) : Fine (Racc w₀) where
  mod f h := keeps_acc_mod w₀ f fun w => frameD_of_frame (h w)
  emit e _ := keeps_acc_emit w₀ e
  obs f _ := keeps_acc_obs w₀ f
  close := keeps_acc_close w₀
  drop := keeps_acc_drop w₀
  copen := keeps_acc_copen w₀

private theorem acc_atoms (w₀ : World) : AtomsD (Racc w₀) where
  toAtomsA := (acc_fine w₀).atomsA
  modD := keeps_acc_mod w₀
  emitD e _ := keeps_acc_emit w₀ e
  listing := (acc_fine w₀).listing

/-- for every API call in every state - whatever the server answers, whether connects succeed, whatever the data
    socket delivers, wherever a sink, a source, a write or a close fails, whether the call returns or throws -
    every data or listening descriptor opened during the call is closed during the call, exactly once, and no
    data_connection object survives the call -/
theorem balanced (op : Op) (w : World) (h : w.conn = none) :
    (after op.run w).conn = none ∧
    (opened (added op.run w)).Perm (closed (added op.run w)) ∧
    (opened (added op.run w)).Nodup :=
  ⟨(run_inv op w h).2, (run_inv op w h).1.drop.balanced h (run_inv op w h).2⟩

/-- descriptors are never reused within a client: every descriptor a call opens is new -/
theorem fresh (op : Op) (w : World) (h : w.conn = none) :
    (∀ d ∈ opened (added op.run w), w.nextD ≤ d) ∧ w.nextD ≤ (after op.run w).nextD :=
  ⟨fun d hd => ((run_inv op w h).1.drop.2.2.2 d hd).1, (run_inv op w h).1.drop.1⟩

/-- the client holds the control socket exactly while it reports connected: a call changes `connected` only through
    connect (opens), disconnect / a 421 reply (shutdown + close in the trace) -/
theorem control_socket_accounting (op : Op) (w : World) :
    ((after op.run w).connected = true ∧ w.connected = false → ∃ h p, Ev.ctlConnect h p ∈ added op.run w) ∧
    ((after op.run w).connected = false ∧ w.connected = true → Ev.ctlClose ∈ added op.run w) := by
  obtain ⟨hc, hd⟩ := run_grew (fun w₀ => (acc_atoms w₀).atomsB) op w
  exact ⟨fun h => hc h.1 h.2, fun h => hd h.1 h.2⟩

/-- non-vacuity: a refused active-mode download closes its listening socket -/
example :
    let w : World := { mode := .active, ttype := .binary, rfc := true, connected := true, listenPorts := [50000],
                       script := [{ raws := [str "200 ok\r\n"] }, { raws := [str "550 no\r\n"] }] }
    opened (added (Op.download (str "f") false).run w) = [1] ∧ closed (added (Op.download (str "f") false).run w) = [1] := by
  decide +kernel

end Ftp.Props.C17
