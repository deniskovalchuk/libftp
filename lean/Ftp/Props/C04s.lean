import Ftp.Generated.SourceFacts
import Ftp.Props.C04
/-
  C04, tie to the source by translation: the block buffer of data_connection::send in src/data_connection.cpp now has the
  size the model's send loop uses.
-/
namespace Ftp.Props.C04
open Ftp.Client Ftp.Session

/-- `blocks_at_most_8192` with the source's constant -/
theorem blocks_at_most_the_sources_buffer (w : World) (t : TType) (cb : Bool) :
    ∀ e ∈ added (dataSend cb t) w, ∀ d n, e = Ev.dataWrite d n → n ≤ Generated.sendBlock := by
  have h : Generated.sendBlock = 8192 := by decide
  rw [h]
  exact blocks_at_most_8192 w t cb

end Ftp.Props.C04
