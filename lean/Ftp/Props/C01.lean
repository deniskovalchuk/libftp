import Ftp.Lemmas.Reader
/-
  C01 - control replies are framed exactly, independent of network segmentation.
  Model: `Ftp.Reader` (match_eol, read_until contract, control_connection::read_line / recv / is_last_line).
-/
namespace Ftp.Props.C01
open Ftp.Reader
open Ftp.Ascii (lfIf)

private theorem streamOf_cons (r : WfReply) (rest : List WfReply) : streamOf (r :: rest) = r.raw ++ streamOf rest := by
  simp [streamOf]

/-- a well-formed reply as the reader and the reference decoder meet it: one line `ddd SP ...`, or a head line `ddd-...`,
    middle lines that do not close the reply and a last line `ddd SP ...` that does -/
private theorem wf_shape (r : WfReply) (hr : r.wf) :
    (∃ l : Line, r.lines = [l] ∧
      l.ok ∧ 4 ≤ l.text.length ∧ parseStatus l.text = some r.code ∧ l.text.getD 3 0 = SP) ∨
    (∃ (first : Line) (mids : List Line) (last : Line), r.lines = first :: (mids ++ [last]) ∧
      first.ok ∧ 4 ≤ first.text.length ∧ parseStatus first.text = some r.code ∧ first.text.getD 3 0 = 45 ∧
      (∀ m ∈ mids, m.ok ∧ isLastLine m.enc r.code = false) ∧
      last.ok ∧ 4 ≤ last.text.length ∧ parseStatus last.text = some r.code ∧ last.text.getD 3 0 = SP) := by
  obtain ⟨hlo, hhi, hok, hshape⟩ := hr
  have head : ∀ (b : Nat) (t : Bytes), 4 ≤ (digits3 r.code ++ b :: t).length ∧
      parseStatus (digits3 r.code ++ b :: t) = some r.code ∧ (digits3 r.code ++ b :: t).getD 3 0 = b :=
    fun b t => ⟨by simp [digits3], parseStatus_digits r.code hlo hhi (b :: t), by simp [digits3]⟩
  rcases hshape with ⟨t, crlf, hl⟩ | ⟨t0, c0, mids, tn, cn, hl, hmids⟩
  · exact .inl ⟨_, hl, hok _ (by simp [hl]), head SP t⟩
  · exact .inr ⟨_, mids, _, hl, hok _ (by simp [hl]), (head 45 t0).1, (head 45 t0).2.1, (head 45 t0).2.2,
      fun m hm => ⟨hok m (by simp [hl, hm]), hmids m hm⟩, hok _ (by simp [hl]), head SP tn⟩

private theorem ne_nil_of_four {t : Bytes} (h : 4 ≤ t.length) : t ≠ [] := fun e => by simp [e] at h

/-- `Pending`: the unread bytes are the replies to come, after an orphan LF if one is owed - and then the reader knows -/
theorem pending_iff (c : Ctl) (net : Net) (rest : List WfReply) :
    Pending c net rest ↔ ∃ o, (o = true → c.skipLf = true) ∧ c.buf ++ net.stream = lfIf o ++ streamOf rest := by
  constructor
  · rintro (h | ⟨h1, h2⟩)
    · exact ⟨false, by simp, h⟩
    · exact ⟨true, fun _ => h1, h2⟩
  · rintro ⟨o, ho, h⟩
    cases o with
    | false => exact .inl h
    | true => exact .inr ⟨ho rfl, h⟩

private theorem step_exact (r : WfReply) (rest : List WfReply) (hr : r.wf) (c : Ctl) (net : Net)
    (hp : Pending c net (r :: rest)) : ∃ c' net', recv c net = (r.expected, c', net') ∧ Pending c' net' rest := by
  obtain ⟨o, ho, hs⟩ := (pending_iff c net _).1 hp
  rw [streamOf_cons] at hs
  rcases wf_shape r hr with
    ⟨l, hl, hok, h4, hps, h3⟩ | ⟨first, mids, last, hl, hok0, h40, hps0, h30, hm, hokn, h4n, hpsn, h3n⟩
  · rw [show r.raw = l.enc by simp [WfReply.raw, hl]] at hs
    obtain ⟨o1, b1, n1, h1, _, hs1⟩ := recv_head c net o ho l hok (ne_nil_of_four h4) _ hs
    rw [h1, recvTail_single c r.code l o1 hok h4 hps h3]
    exact ⟨{ buf := b1, skipLf := o1, closed := c.closed || r.code == 421 }, n1,
      by simp [WfReply.expected, WfReply.text, hl], (pending_iff _ _ _).2 ⟨o1, id, hs1⟩⟩
  · rw [show r.raw = first.enc ++ ((mids.map Line.enc).flatten ++ (last.enc ++ [])) by simp [WfReply.raw, hl]] at hs
    simp only [List.append_assoc] at hs
    obtain ⟨o1, b1, n1, h1, ho1, hs1⟩ := recv_head c net o ho first hok0 (ne_nil_of_four h40) _ hs
    obtain ⟨o2, b2, n2, h2, hs2⟩ := recvTail_multi c r.code first o1 ho1 h40 hps0 h30 mids hm last hokn h4n
      (isLastLine_of _ _ h4n h3n hpsn) _ b1 n1 hs1
    rw [h1, h2]
    refine ⟨{ buf := b2, skipLf := o2, closed := c.closed || r.code == 421 }, n2, ?_,
      (pending_iff _ _ _).2 ⟨o2, id, by simpa using hs2⟩⟩
    rw [WfReply.expected, WfReply.text, show r.lines = (first :: mids) ++ [last] by simp [hl],
      List.dropLast_concat, List.getLast?_concat]
    simp

/-- one receive step yields the next reply exactly, and keeps everything after it for the next step - for every
    delivery schedule and every state of the buffer that `Pending` allows -/
theorem step (r : WfReply) (rest : List WfReply) (hr : r.wf) (c : Ctl) (net : Net)
    (hb : c.buf.length ≤ maxLine) (hp : Pending c net (r :: rest)) :
    ∃ c' net', recv c net = (r.expected, c', net') ∧ Pending c' net' rest ∧ c'.buf.length ≤ maxLine ∧
      net'.sizes.length ≤ net.sizes.length ∧ net'.fin = net.fin := by
  obtain ⟨c', net', h, hp'⟩ := step_exact r rest hr c net hp
  -- the bound on the buffer and the progress of the transport hold for every receive step, whatever the bytes
  have hs := recv_spec c net
  rw [h] at hs
  exact ⟨c', net', h, hp', hs.buf hb, hs.net.2, hs.net.1⟩

private theorem framing_gen (rs : List WfReply) (hwf : ∀ r ∈ rs, r.wf) (c : Ctl) (net : Net) (hp : Pending c net rs) :
    ∃ c' net', recvMany rs.length c net = (rs.map WfReply.expected, c', net') ∧ Pending c' net' [] := by
  induction rs generalizing c net with
  | nil => exact ⟨c, net, rfl, hp⟩
  | cons r rs ih =>
    obtain ⟨c1, net1, h1, hp1⟩ := step_exact r rs (hwf r (List.mem_cons_self ..)) c net hp
    obtain ⟨c2, net2, h2, hp2⟩ := ih (fun r hr => hwf r (List.mem_cons_of_mem _ hr)) c1 net1 hp1
    refine ⟨c2, net2, ?_, hp2⟩
    simp only [List.length_cons, recvMany, h1, h2, List.map_cons]

/-- framing: for every finite sequence of well-formed replies and every way the stream is cut into network reads
    (`sizes`), the receive steps yield exactly the replies, in order; nothing is lost, duplicated or merged -/
theorem framing (rs : List WfReply) (hwf : ∀ r ∈ rs, r.wf) (sizes : List Nat) (fin : End) :
    ∃ c' net', recvMany rs.length {} { stream := streamOf rs, sizes := sizes, fin := fin } =
        (rs.map WfReply.expected, c', net') ∧ Pending c' net' [] :=
  framing_gen rs hwf _ _ (.inl (by simp))

/-- the result is identical for every two segmentations -/
theorem schedule_independent (rs : List WfReply) (hwf : ∀ r ∈ rs, r.wf) (s1 s2 : List Nat) (f1 f2 : End) :
    (recvMany rs.length {} { stream := streamOf rs, sizes := s1, fin := f1 }).1 =
    (recvMany rs.length {} { stream := streamOf rs, sizes := s2, fin := f2 }).1 := by
  obtain ⟨_, _, h1, _⟩ := framing rs hwf s1 f1
  obtain ⟨_, _, h2, _⟩ := framing rs hwf s2 f2
  rw [h1, h2]

private def termOf (crlf : Bool) : Bytes := if crlf then [CR, LF] else [LF]

private theorem enc_fun : Line.enc = fun l => l.text ++ termOf l.crlf := rfl

private def allLines (rs : List WfReply) : List Line := (rs.map (·.lines)).flatten

private theorem streamOf_eq (rs : List WfReply) : streamOf rs = ((allLines rs).map Line.enc).flatten := by
  simp [streamOf, allLines, List.map_flatten, List.flatten_flatten, Function.comp_def]
  rfl

private theorem group_spec (rs : List WfReply) (hwf : ∀ r ∈ rs, r.wf) (f : Nat) (hf : (allLines rs).length ≤ f) :
    Spec.groupReplies f ((allLines rs).map Line.enc) = some (rs.map fun r => (r.code, r.text)) := by
  induction rs generalizing f with
  | nil => exact Spec.groupReplies_nil f
  | cons r rs ih =>
    have ih' := ih (fun r hr => hwf r (List.mem_cons_of_mem _ hr))
    have hcode : ∀ l : Line, 4 ≤ l.text.length → parseStatus l.text = some r.code →
        Spec.codeOf l.enc = some r.code := fun l h4 hps => by
      rw [Spec.codeOf_eq_parseStatus, Line.enc, parseStatus_append _ _ (by omega), hps]
    rw [show allLines (r :: rs) = r.lines ++ allLines rs by simp [allLines]] at hf ⊢
    rcases wf_shape r (hwf r (List.mem_cons_self ..)) with
      ⟨l, hl, hok, h4, hps, h3⟩ | ⟨first, mids, last, hl, hok0, h40, hps0, h30, hm, hokn, h4n, hpsn, h3n⟩
    · rw [hl] at hf ⊢
      simp only [List.cons_append, List.nil_append, List.length_cons, List.map_cons] at hf ⊢
      obtain ⟨f', rfl⟩ : ∃ f', f = f' + 1 := ⟨f - 1, by omega⟩
      rw [show r.text = l.text by simp [WfReply.text, hl]]
      exact Spec.groupReplies_single f' _ _ r.code _ _ (hcode l h4 hps) (Spec.content_line _ hok.1) h3 (ih' f' (by omega))
    · have hmc : ∀ e ∈ mids.map Line.enc, Spec.closes r.code e = false := by
        intro e he
        obtain ⟨m, hmem, rfl⟩ := List.mem_map.mp he
        by_cases h4 : 4 ≤ m.text.length
        · rw [Spec.closes_eq _ m (hm m hmem).1.1 h4, (hm m hmem).2]
        · exact Spec.closes_short _ m (hm m hmem).1.1 h4
      have hcl : Spec.closes r.code last.enc = true := by
        rw [Spec.closes_eq _ _ hokn.1 h4n, Line.enc, isLastLine_append _ _ _ h4n]
        exact isLastLine_of _ _ h4n h3n hpsn
      have htake := Spec.takeReply_spec r.code (mids.map Line.enc) _ ((allLines rs).map Line.enc) hmc hcl
      rw [hl] at hf ⊢
      simp only [List.cons_append, List.length_cons, List.map_cons, List.map_append, List.append_assoc,
        List.nil_append] at hf ⊢
      obtain ⟨f', rfl⟩ : ∃ f', f = f' + 1 := ⟨f - 1, by omega⟩
      have hcont0 := Spec.content_line _ hok0.1
      rw [Spec.groupReplies_multi f' _ _ _ _ r.code _ (hcode first h40 hps0) (by rw [hcont0]; exact h30)
        (by rw [hcont0]; exact h40) htake (ih' f' (by simp only [List.length_append, List.length_cons] at hf; omega))]
      congr 3
      rw [WfReply.text, show r.lines = (first :: mids) ++ [last] by simp [hl], List.dropLast_concat,
        List.getLast?_concat]
      have := Spec.content_enc (first.enc ++ (mids.map Line.enc).flatten) last
        (getLast?_append_ne_cr _ _ (ne_nil_of_four h4n) hokn.1)
      simpa using this

/-- the reference decoder used as the monitor agrees with the structured encoding -/
theorem decode_encode (rs : List WfReply) (hwf : ∀ r ∈ rs, r.wf) :
    Spec.decodeStream (streamOf rs) = some (rs.map fun r => (r.code, r.text)) := by
  have hok : ∀ l ∈ allLines rs, l.ok := by
    intro l hl
    simp only [allLines, List.mem_flatten, List.mem_map] at hl
    obtain ⟨_, ⟨r, hr, rfl⟩, hl⟩ := hl
    exact (hwf r hr).2.2.1 l hl
  unfold Spec.decodeStream
  rw [streamOf_eq, Spec.rawLines_enc _ (fun l hl => (hok l hl).2.1)]
  simp only [Spec.linesOk_enc _ hok, if_true, List.length_map]
  exact group_spec rs hwf _ (Nat.le_refl _)

/-- non-vacuity: `150 ok CR | LF 226 done CR LF` (the cut at which a reader that forgets the owed LF loses framing), and
    a multi-line reply whose middle lines start with digits / the same code and `-` -/
example :
    let r1 : WfReply := ⟨150, [⟨str "150 ok", true⟩]⟩
    let r2 : WfReply := ⟨226, [⟨str "226-a", true⟩, ⟨str "226-b", false⟩, ⟨str "2260", true⟩, ⟨str "226 done", true⟩]⟩
    (recvMany 2 {} { stream := streamOf [r1, r2], sizes := [7, 1, 3, 200], fin := .eof }).1 = [r1.expected, r2.expected] ∧
    r2.text = str "226-a\r\n226-b\n2260\r\n226 done" := by decide +kernel

end Ftp.Props.C01

