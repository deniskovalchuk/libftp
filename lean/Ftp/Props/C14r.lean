import Ftp.Model.Observers
import Ftp.Model.Client
/-
  C14, re-entrant removal: "An observer that has been removed receives nothing further" when the removal happens from
  inside a callback, while a notification round is in progress.  Model: `Ftp.Observers.round` (the range-for over the
  std::list of observers with `std::list::remove` called from a callback).
-/
namespace Ftp.Props.C14
open Ftp.Observers

/-- a round in which whoever is called unregisters only observers that are dead already calls exactly the living -/
theorem round_eq_filter (kills : Nat → List Nat) (obs dead : List Nat)
    (h : ∀ o ∈ obs, o ∉ dead → ∀ x ∈ kills o, x ∈ dead) :
    round kills obs dead = obs.filter (fun o => !dead.contains o) := by
  induction obs generalizing dead with
  | nil => rfl
  | cons o rest ih =>
    have hr := fun o' ho' => h o' (List.mem_cons_of_mem _ ho')
    unfold round
    by_cases hd : o ∈ dead
    · simp [hd, ih dead hr]
    · have hk := h o (List.mem_cons_self ..) hd
      have hsame : ∀ x, x ∈ dead ++ kills o ↔ x ∈ dead := fun x => by
        simp only [List.mem_append, or_iff_left_iff_imp]; exact hk x
      rw [ih (dead ++ kills o) (fun o' ho' hn x hx => (hsame x).2 (hr o' ho' (fun hm => hn ((hsame o').2 hm)) x hx))]
      simp [hd, hsame]

/-- without re-entrant removals a round calls every registered observer, in registration order (this is the
    `forObservers` of the client model, whose theorems quantify over the observer list at the start of a call) -/
theorem round_without_removals (obs : List Nat) : round (fun _ => []) obs [] = obs :=
  (round_eq_filter (fun _ => []) obs [] (by simp)).trans (List.filter_eq_self.2 (by simp))

/-- the notification primitive of the client model (`Ftp.Client.forObservers`, through which every observer event of
    every operation is emitted) is one such round without removals over the observers registered at that moment -/
theorem forObservers_is_a_round (f : Nat → Ftp.Client.Ev) (w : Ftp.Client.World) :
    Ftp.Client.forObservers f w =
      (.ok (), { w with trace := w.trace ++ (round (fun _ => []) w.observers []).map f }) := by
  rw [round_without_removals]
  rfl

/-- nobody who was unregistered before his turn is called -/
theorem round_skips_dead (kills : Nat → List Nat) (obs dead : List Nat) (x : Nat) (hx : x ∈ dead) :
    x ∉ round kills obs dead := by
  induction obs generalizing dead with
  | nil => simp [round]
  | cons o rest ih =>
    unfold round
    split
    · exact ih dead hx
    · rename_i hd
      intro hmem
      rcases List.mem_cons.1 hmem with h | h
      · subst h; simp [hx] at hd
      · exact ih (dead ++ kills o) (List.mem_append_left _ hx) h

/-- the observers called are called in registration order, each at most as often as it is registered -/
theorem round_sublist (kills : Nat → List Nat) (obs dead : List Nat) : (round kills obs dead).Sublist obs := by
  induction obs generalizing dead with
  | nil => simp [round]
  | cons o rest ih =>
    unfold round
    split
    · exact (ih dead).cons o
    · exact (ih _).cons_cons o

/-- a round over `a ++ b` is the round over `a` followed by the round over `b` in which everybody the observers called
    in `a` have unregistered is dead -/
theorem round_append (kills : Nat → List Nat) (a b dead : List Nat) :
    round kills (a ++ b) dead = round kills a dead ++ round kills b (dead ++ (round kills a dead).flatMap kills) := by
  induction a generalizing dead with
  | nil => simp [round]
  | cons o rest ih =>
    simp only [List.cons_append, round]
    split
    · exact ih dead
    · simp only [List.cons_append, List.flatMap_cons, ih, List.append_assoc]

/-- **a removed observer receives nothing further**: once an observer that is called has unregistered `x`, `x` is not
    called in the rest of the round, wherever it stands -/
theorem removed_observer_not_called_afterwards (kills : Nat → List Nat) (a b : List Nat) (o x : Nat)
    (ho : o ∈ round kills a []) (hx : x ∈ kills o) : x ∉ round kills b ([] ++ (round kills a []).flatMap kills) := by
  apply round_skips_dead
  simp only [List.nil_append, List.mem_flatMap]
  exact ⟨o, ho, hx⟩

/-- ... and it is not registered any more when the round is over -/
theorem removed_observer_not_registered_afterwards (kills : Nat → List Nat) (obs : List Nat) (o x : Nat)
    (ho : o ∈ round kills obs []) (hx : x ∈ kills o) : x ∉ remaining kills obs := by
  unfold remaining
  intro h
  have := (List.mem_filter.1 h).2
  simp only [Bool.not_eq_true', List.contains_eq_mem, decide_eq_false_iff_not, List.mem_flatMap, not_exists, not_and] at this
  exact this o ho hx

/-- observers that nobody unregisters are not affected: they are called exactly as without removals -/
theorem others_unaffected (kills : Nat → List Nat) (obs dead : List Nat) (x : Nat) (hx : x ∈ obs)
    (hd : x ∉ dead) (hk : ∀ o, x ∉ kills o) : x ∈ round kills obs dead := by
  induction obs generalizing dead with
  | nil => cases hx
  | cons o rest ih =>
    unfold round
    rcases List.mem_cons.1 hx with h | h
    · subst h
      simp [hd]
    · split
      · exact ih dead h hd
      · exact List.mem_cons_of_mem _ (ih _ h (by simp [hd, hk o]))

-- the proof does not use `hij`
set_option linter.unusedVariables false in
/-- the armed removal of the harness (`rmin:i:j`: observer i unregisters observer j at its next callback, i ≠ j): the
    round calls everybody up to and including i, and after i everybody but j - which is how the driver rewrites the
    model's event stream at the place where the implementation reports that the removal fired -/
theorem round_single_kill (i j : Nat) (pre post : List Nat) (hij : i ≠ j) (hpre : i ∉ pre) :
    round (single i j) (pre ++ i :: post) [] = pre ++ i :: post.filter (· ≠ j) := by
  have hne : ∀ o ∈ pre, single i j o = [] := fun o ho => by
    have : o ≠ i := fun h => hpre (h ▸ ho)
    simp [single, this]
  -- up to `i` nobody unregisters anybody; after `i` only `j` is dead, and only `i` could unregister: `j` again
  have h1 : round (single i j) pre [] = pre :=
    (round_eq_filter (single i j) pre [] (fun o ho _ x hx => by simp [hne o ho] at hx)).trans
      (List.filter_eq_self.2 (by simp))
  have h2 : pre.flatMap (single i j) = [] := by simpa [List.flatMap_eq_nil_iff] using hne
  have h3 : round (single i j) post [j] = post.filter (· ≠ j) := by
    rw [round_eq_filter (single i j) post [j] (fun o _ _ x hx => by
      by_cases h : o = i <;> simp [single, h] at hx; simp [hx])]
    apply List.filter_congr; intro x _; simp
  rw [round_append, h1, h2]
  simp [round, single, h3]

/-- non-vacuity: three observers, the first unregisters the third from inside its callback: the third is not called in
    this round and is gone afterwards; the second is called as usual -/
example : round (single 0 2) [0, 1, 2] [] = [0, 1] ∧ remaining (single 0 2) [0, 1, 2] = [0, 1] := by decide +kernel

end Ftp.Props.C14
