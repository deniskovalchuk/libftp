import Ftp.Lemmas.ClientRef
/-
  C10 - each operation sends its prescribed commands and advances only as prescribed.
  Model: `Ftp.Client`; reference: `Ftp.Spec.expectedLines` (an automaton over reply codes).
-/
namespace Ftp.Props.C10
open Ftp.Client Ftp.Session Ftp.Client.CtlL

def settingsOf (w : World) : Spec.Settings :=
  { passive := w.mode == .passive, rfc2428 := w.rfc, asciiType := w.ttype == .ascii, v6 := w.v6 }

/-- the reference call of an API call; `cancelled` = the callback reported cancellation when the transfer ended -/
def callOf (op : Op) (cancelled : Bool) : Spec.Call :=
  match op with
  | .connect _ _ c => .connect c
  | .login u p => .login u p
  | .logout => .simple "REIN" none
  | .simple v a => .simple v a
  | .setType t => .setType (t == .ascii)
  | .rename a b => .rename a b
  | .download p cb => .transfer "RETR" (some p) (cb && cancelled)
  | .upload v p cb => .transfer v (some p) (cb && cancelled)
  | .list p n => .transfer (if n then "NLST" else "LIST") p false
  | .disconnect g => .disconnect g

/-- what a call that returned has sent and received, against the reference automaton -/
private theorem run_spec (op : Op) (w w' : World) (o : Out) (h : op.run w = (.ok o, w')) :
    ∃ ws, Ext w w' ws o.replyList ∧
      ws.map lineOf = Spec.expectedLines (settingsOf w) (callOf op w'.cancelled) (o.replyList.map (·.code))
        ((ws.head?.map lineOf).getD []) := by
  obtain ⟨as, st, hl, sh⟩ := run_steps op h
  refine ⟨sends as, by simpa [hl] using (ext_startOf op w).trans st.ext, ?_⟩
  rw [hl]
  have hset : ∀ {setup}, SetupLine w setup → (settingsOf w).passive = true →
      setup = if (settingsOf w).rfc2428 then str "EPSV" else str "PASV" := by
    intro setup hs hp
    have hm : w.mode = .passive := by simpa [settingsOf] using hp
    simpa [SetupLine, hm, settingsOf] using hs
  cases op with
  | connect hst p c => exact connectActs_ref (settingsOf w) rfl sh st.lt
  | login u p => exact loginActs_ref (settingsOf w) rfl sh st.lt
  | logout | simple _ _ => obtain ⟨r, rfl⟩ := sh; simp [sends, Spec.expectedLines, callOf]
  | setType t => obtain ⟨r, rfl⟩ := sh; cases t <;> simp [sends, Spec.expectedLines, callOf, typeCommand]
  | rename a b => exact renameActs_ref (settingsOf w) sh
  | download _ _ | upload _ _ _ | list _ _ =>
    obtain ⟨setup, hs, sh⟩ := sh; exact xferActs_ref (settingsOf w) (hset hs) sh st.lt
  | disconnect g =>
    cases g
    · obtain rfl : as = [] := sh
      rfl
    · obtain ⟨r, rfl⟩ : ∃ r, as = _ := sh
      simp [sends, Spec.expectedLines, callOf, Spec.line]

-- the proof does not use `hstep`, `hsc`, `hwf`
set_option linter.unusedVariables false in
/-- for every API call that returns, against every server whose replies are well-formed (any codes, any number of
    replies per command): the commands sent are exactly those of the reference automaton driven by the reply codes
    actually received -/
theorem commands_follow_reference (op : Op) (w : World) (q : List Ftp.Props.C01.WfReply) (sc : List SGroup)
    (hstep : InStep w q ∨ (∃ h p c, op = .connect h p c)) (hsc : w.script = sc.map SGroup.enc) (hwf : WfScript sc)
    (hret : ∃ o, result op.run w = .ok o) :
    (writes (added op.run w)).map lineOf =
      Spec.expectedLines (settingsOf w) (callOf op (after op.run w).cancelled)
        ((received (added op.run w)).map (·.code)) (((writes (added op.run w)).head?.map lineOf).getD []) := by
  obtain ⟨o, ho⟩ := hret
  obtain ⟨ws, x, hw⟩ := run_spec op w _ o (run_of_result ho)
  obtain ⟨e1, e2⟩ := Ext.added x
  rw [e1, e2]
  exact hw

/-- every reply received during a call is returned by it, in order -/
theorem every_reply_returned (op : Op) (w : World) (o : Out) (hret : result op.run w = .ok o) :
    o.replyList = received (added op.run w) := by
  obtain ⟨ws, x, _⟩ := run_spec op w _ o (run_of_result hret)
  exact (Ext.added x).2.symm

/-- the transfer type the client reports and converts by changes only when the server positively acknowledges a TYPE
    command, and then to the type of that command -/
theorem type_changes_only_on_ack (op : Op) (w : World) (h : (after op.run w).ttype ≠ w.ttype) :
    ∃ t, op = .setType t ∧ (after op.run w).ttype = t ∧
      ((received (added op.run w)).getLast?.map Reply.isPositive) = some true := by
  by_cases hs : ∃ t, op = .setType t
  · obtain ⟨t, rfl⟩ := hs
    have e : after (Op.setType t).run w = (setTransferType t w).2 := map_apply (setTransferType t) Out.reply w
    rw [e] at h
    obtain ⟨h1, h2⟩ := setTransferType_tt t w h
    refine ⟨t, rfl, by rw [e]; exact h1, ?_⟩
    unfold added
    rw [e]
    exact h2
  · exact absurd (run_cfg (·.ttype) op (fun t ht => absurd ⟨t, ht⟩ hs) w).1 h

/-- a history of API calls on one client: each call starts in the state the previous one left (returned or thrown) -/
def runOps : List Op → World → World
  | [], w => w
  | op :: ops, w => runOps ops (after op.run w)

/-- **histories**: whatever the calls are and however the server answers - logins, logouts, logins again, transfers,
    refusals, 421s, lost connections - the transfer type the client reports and converts by at the end of a history is
    the one it had at the start unless the history contains a `set_transfer_type` call (whose own theorem,
    `type_changes_only_on_ack`, says it changes the type only on a positive reply) -/
theorem history_type_changes_only_by_set_type (ops : List Op) (w : World)
    (h : ∀ op ∈ ops, ∀ t, op ≠ .setType t) : (runOps ops w).ttype = w.ttype := by
  induction ops generalizing w with
  | nil => rfl
  | cons op ops ih =>
    exact (ih _ fun o ho => h o (List.mem_cons_of_mem _ ho)).trans
      (run_cfg (·.ttype) op (fun t e => absurd e (h op List.mem_cons_self t)) w).1

/-- connecting with a user name behaves exactly like connecting and then logging in (when the greeting is not
    negative) -/
theorem connect_with_user_is_connect_then_login (h : Bytes) (p : Nat) (u pw : Bytes) (w : World)
    (hu : Endpoint.hasCrLf u = false) (hp : Endpoint.hasCrLf pw = false)
    (rs : Replies) (w1 : World) (h1 : (Client.connect h p none) w = (.ok rs, w1))
    (hpos : (rs.list.getLast?.map Reply.isNegative) = some false) :
    added (Op.connect h p (some (u, pw))).run w = added (Op.connect h p none).run w ++ added (Op.login u pw).run w1 := by
  have e1 : ((Op.connect h p none).run w).2 = w1 :=
    (map_apply (Client.connect h p none) Out.replies w).trans (congrArg (·.2) h1)
  have k1 := run_rt (Q := fun _ => True) (fun _ _ => trivial) (Op.connect h p none) trivial w
  rw [e1] at k1
  exact added_trans e1 k1 (run_rt (Q := fun _ => True) (fun _ _ => trivial) (Op.login u pw) trivial w1)
    ((map_apply (Client.connect h p (some (u, pw))) Out.replies w).trans
      ((connect_user_world hu hp h1 hpos).trans (map_apply (Client.login u pw) Out.replies w1).symm))

end Ftp.Props.C10
