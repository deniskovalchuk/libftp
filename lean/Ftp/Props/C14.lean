import Ftp.Lemmas.ClientTrace
/-
  C14 - observers see exactly the control-channel transcript, in order.
  Model: `Ftp.Client` (client::send / recv / notify_*); every API call of `Ftp.Session.Op`.
-/
namespace Ftp.Props.C14
open Ftp.Client Ftp.Session Ftp.Client.TraceL

/-- what the registered observers are told around one transcript event, in registration order: a connect, a reply
    and a listing are announced after they happened, a command before it is written -/
def block (obs : List Nat) : Ev → List Ev
  | .ctlConnect h p => .ctlConnect h p :: obs.map (fun o => .obsConnected o h p)
  | .ctlWrite b => obs.map (fun o => .obsRequest o (lineOf b)) ++ [.ctlWrite b]
  | .ctlWriteFail b => obs.map (fun o => .obsRequest o (lineOf b)) ++ [.ctlWriteFail b]
  | .ctlReply c t => .ctlReply c t :: obs.map (fun o => .obsReply o c t)
  | .listing t => .listing t :: obs.map (fun o => .obsFileList o t)
  | e => [e]

/-- what observer `o` must be told for a transcript event -/
def toObs (o : Nat) : Ev → Option Ev
  | .ctlConnect h p => some (.obsConnected o h p)
  | .ctlWrite b => some (.obsRequest o (lineOf b))
  | .ctlWriteFail b => some (.obsRequest o (lineOf b))
  | .ctlReply c t => some (.obsReply o c t)
  | .listing t => some (.obsFileList o t)
  | _ => none

/-! ### proof: a relation kept by every atomic step, hence by every call -/

/-- the events a program appended are interleaved as `block` prescribes -/
private def Good (obs : List Nat) (δ : List Ev) : Prop :=
  δ.filter (fun e => isTranscript e || isObs e) = (δ.filter isTranscript).flatMap (block obs)

/-- the observers are those of the start, and the events appended are interleaved as `block` prescribes -/
private def G (w : World) (δ : List Ev) (w' : World) : Prop := w'.observers = w.observers ∧ Good w.observers δ

private theorem good_append {obs : List Nat} {a b : List Ev} (ha : Good obs a) (hb : Good obs b) : Good obs (a ++ b) := by
  unfold Good at *
  simp only [List.filter_append, List.flatMap_append, ha, hb]

private instance : Mon G where
  nil _ := ⟨rfl, rfl⟩
  app h1 h2 := ⟨h2.1.trans h1.1, good_append h1.2 (h1.1 ▸ h2.2)⟩

private abbrev R := Grew G

@[simp] private theorem filter_fun_true {α} (l : List α) : l.filter (fun _ => true) = l := by
  induction l <;> simp_all
@[simp] private theorem filter_fun_false {α} (l : List α) : l.filter (fun _ => false) = [] := by
  induction l <;> simp_all

private theorem good_plain (obs : List Nat) (e : Ev) (h : plain e = true) : Good obs [e] := by
  simp only [plain, Bool.not_eq_true', Bool.or_eq_false_iff] at h
  simp [Good, h.1, h.2]

/-- a transcript event with what the observers are told around it -/
private theorem good_block (obs : List Nat) (e : Ev) (he : isTranscript e = true) : Good obs (block obs e) := by
  cases e <;> first
    | (cases he; done)
    | simp [Good, block, isTranscript, isObs, List.filter_cons, List.filter_append, List.filter_map, Function.comp_def]

/-- plain events inside a block do not matter -/
private theorem good_congr {obs : List Nat} {a b : List Ev} (hb : Good obs b)
    (h : a.filter (fun e => isTranscript e || isObs e) = b.filter (fun e => isTranscript e || isObs e)) :
    Good obs a := by
  have ht : ∀ l : List Ev, l.filter isTranscript = (l.filter fun e => isTranscript e || isObs e).filter isTranscript :=
    fun l => by rw [List.filter_filter]; exact List.filter_congr fun e _ => by cases isTranscript e <;> rfl
  unfold Good at *
  rw [h, ht a, h, ← ht b, hb]

private theorem keeps_mod (f : World → World) (h : ∀ w, (f w).trace = w.trace ∧ (f w).observers = w.observers) :
    CtlL.Keeps R (modifyW f) :=
  fun w => ⟨[], by simpa using (h w).1, (h w).2, rfl⟩

private theorem keeps_emit (e : Ev) (h : plain e = true) : CtlL.Keeps R (emit e) :=
  fun _ => ⟨[e], rfl, rfl, good_plain _ e h⟩

private theorem keeps_close : CtlL.Keeps R ctlClose :=
  .bind (keeps_emit _ rfl) fun _ => .bind (keeps_emit _ rfl) fun _ => keeps_mod _ fun _ => ⟨rfl, rfl⟩

private theorem keeps_drop : CtlL.Keeps R connectDrop :=
  .bind (keeps_emit _ rfl) fun _ => keeps_mod _ fun _ => ⟨rfl, rfl⟩

private theorem keeps_send (c : Bytes) : CtlL.Keeps R (ctlSend c) := by
  intro w
  rw [ctlSend_eq]
  simp only [bind_apply, forObservers_apply, sendTail, getW_apply]
  split
  · exact ⟨block w.observers (.ctlWriteFail (c ++ CRLF)), by simp [block, lineOf_cmd], rfl, good_block _ _ rfl⟩
  · exact ⟨block w.observers (.ctlWrite (c ++ CRLF)), by simp [block, lineOf_cmd], rfl, good_block _ _ rfl⟩

private theorem keeps_recvTail (c : Nat) (t : Bytes) : CtlL.Keeps R (recvTail c t) := by
  intro w
  unfold recvTail
  split
  · simp only [ctlClose, bind_apply, emit_apply, modifyW_apply, forObservers_apply, pure_apply]
    refine ⟨[.ctlReply c t, .ctlShutdown, .ctlClose] ++ w.observers.map (fun o => .obsReply o c t), by simp, rfl,
      good_congr (good_block w.observers (.ctlReply c t) rfl) ?_⟩
    simp [block, isTranscript, isObs]
  · simp only [bind_apply, emit_apply, forObservers_apply, pure_apply]
    exact ⟨block w.observers (.ctlReply c t), by simp [block], rfl, good_block _ _ rfl⟩

private theorem keeps_copen (h : Bytes) (p : Nat) : CtlL.Keeps R (connectOpen h p) := by
  intro w
  simp only [connectOpen, bind_apply, emit_apply, modifyW_apply, forObservers_apply]
  exact ⟨block w.observers (.ctlConnect h p), by simp [block], rfl, good_block _ _ rfl⟩

private theorem keeps_listing (t : Bytes) : CtlL.Keeps R (listingNotify t) := by
  intro w
  simp only [listingNotify, bind_apply, emit_apply, forObservers_apply]
  exact ⟨block w.observers (.listing t), by simp [block], rfl, good_block _ _ rfl⟩

private theorem plain_of_quiet {e : Ev} (h : quiet e = true) : plain e = true := by
  simp only [quiet, Bool.and_eq_true] at h; exact h.1

private theorem atoms (w₀ : World) : AtomsD (R w₀) where
  mod f h := (keeps_mod f fun w => ⟨(h w).1, (h w).2.1⟩).inv w₀
  emit e h := (keeps_emit e (plain_of_quiet h)).inv w₀
  send c := (keeps_send c).inv w₀
  recv := keeps_ctlRecv ((keeps_emit _ rfl).inv w₀) (fun f h => (keeps_mod f fun w => ⟨(h w).1, (h w).2.1⟩).inv w₀)
    fun c t => (keeps_recvTail c t).inv w₀
  close := keeps_close.inv w₀
  drop := keeps_drop.inv w₀
  copen h p := (keeps_copen h p).inv w₀
  modD f h := (keeps_mod f fun w => ⟨(h w).1, (h w).2.1⟩).inv w₀
  emitD e h := (keeps_emit e h).inv w₀
  listing t := (keeps_listing t).inv w₀

private theorem run_G (op : Op) (w : World) : G w (added op.run w) (after op.run w) :=
  run_grew (fun w₀ => (atoms w₀).atomsB) op w

/-- a call only ever appends to the trace, and never changes the set of observers -/
theorem trace_grows (op : Op) (w : World) :
    (after op.run w).trace = w.trace ++ added op.run w ∧ (after op.run w).observers = w.observers :=
  ⟨run_trace op w, (run_G op w).1⟩

/-- for every API call in every state (any server behaviour, any fault): the transcript events and the observer events
    of the call are interleaved exactly as `block` prescribes - each command is announced to every registered observer,
    in registration order, immediately before it is written; each connect, each reply as framed and each listing
    immediately after it -/
theorem interleaving (op : Op) (w : World) :
    (added op.run w).filter (fun e => isTranscript e || isObs e) =
      ((added op.run w).filter isTranscript).flatMap (block w.observers) := (run_G op w).2

private theorem isObsOf_and (o : Nat) (e : Ev) : isObsOf o e = (isObsOf o e && (isTranscript e || isObs e)) := by
  cases e <;> simp [isObsOf, isTranscript, isObs]

private theorem filter_eq_single {o : Nat} {obs : List Nat} (ho : o ∈ obs) (hn : obs.Nodup) :
    obs.filter (fun i => i == o) = [o] := by
  rw [List.filter_beq, hn.count, if_pos ho]; rfl

private theorem filter_eq_none {o : Nat} {obs : List Nat} (ho : o ∉ obs) : obs.filter (fun i => i == o) = [] := by
  rw [List.filter_beq, List.count_eq_zero_of_not_mem ho]; rfl

private theorem block_filter_of_mem {o : Nat} {obs : List Nat} (ho : o ∈ obs) (hn : obs.Nodup) (e : Ev)
    (he : isTranscript e = true) : (block obs e).filter (isObsOf o) = (toObs o e).toList := by
  cases e <;> simp [isTranscript] at he <;>
    simp [block, toObs, List.filter_append, List.filter_map, Function.comp_def, isObsOf,
      filter_eq_single ho hn]

private theorem block_filter_of_not_mem {o : Nat} {obs : List Nat} (ho : o ∉ obs) (e : Ev)
    (he : isTranscript e = true) : (block obs e).filter (isObsOf o) = [] := by
  cases e <;> simp [isTranscript] at he <;>
    simp [block, List.filter_append, List.filter_map, Function.comp_def, isObsOf,
      filter_eq_none ho]

private theorem toObs_of_transcript (o : Nat) (e : Ev) :
    (if isTranscript e = true then toObs o e else none) = toObs o e := by
  cases e <;> simp [isTranscript, toObs]

/-- what observer `o` sees of a call, in terms of the transcript of the call -/
private theorem obs_view (op : Op) (w : World) (o : Nat) :
    (added op.run w).filter (isObsOf o) =
      ((added op.run w).filter isTranscript).flatMap (fun e => (block w.observers e).filter (isObsOf o)) := by
  have h := congrArg (List.filter (isObsOf o)) (interleaving op w)
  rw [List.filter_filter, List.filter_flatMap] at h
  rw [← h]
  exact List.filter_congr fun e _ => isObsOf_and o e

/-- hence the event sequence of a registered observer equals the transcript of the control channel -/
theorem log_is_transcript (op : Op) (w : World) (o : Nat) (ho : o ∈ w.observers) (hn : w.observers.Nodup) :
    (added op.run w).filter (isObsOf o) = (added op.run w).filterMap (toObs o) := by
  rw [obs_view]
  have h2 : (added op.run w).filterMap (toObs o) = ((added op.run w).filter isTranscript).filterMap (toObs o) := by
    rw [List.filterMap_filter]
    simp only [toObs_of_transcript]
  rw [h2]
  have hall : ∀ e ∈ (added op.run w).filter isTranscript, isTranscript e = true := fun e he => (List.mem_filter.mp he).2
  generalize (added op.run w).filter isTranscript = T at hall
  induction T with
  | nil => rfl
  | cons e es ih =>
    rw [List.flatMap_cons, List.filterMap_cons, ih (fun e he => hall e (List.mem_cons_of_mem _ he)),
      block_filter_of_mem ho hn e (hall e List.mem_cons_self)]
    cases toObs o e <;> rfl

/-- an observer that is not registered (never added, or removed) receives nothing -/
theorem unregistered_is_silent (op : Op) (w : World) (o : Nat) (ho : o ∉ w.observers) :
    (added op.run w).filter (isObsOf o) = [] := by
  rw [obs_view, List.flatMap_eq_nil_iff]
  exact fun e he => block_filter_of_not_mem ho e (List.mem_filter.mp he).2

/-- non-vacuity: a login seen by two observers -/
example :
    let w : World := { mode := .passive, ttype := .binary, rfc := true, observers := [0, 2], connected := true,
                       script := [{ raws := [str "230 ok\r\n"] }, { raws := [str "200 ok\r\n"] }] }
    (added (Op.login (str "u") (str "p")).run w).filter (isObsOf 2) =
      [.obsRequest 2 (str "USER u"), .obsReply 2 230 (str "230 ok"), .obsRequest 2 (str "TYPE I"), .obsReply 2 200 (str "200 ok")] := by
  decide +kernel

end Ftp.Props.C14
