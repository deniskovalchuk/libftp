import Ftp.Lemmas.App
/-
  C20 - the interactive client survives any input and server, and protects local files.
  Model: `Ftp.App` (main, cmdline_interface::run, command_handler::handle and the handlers) over `Ftp.Client`.
-/
namespace Ftp.Props.C20
open Ftp.Client Ftp.App Ftp.Cmd

/-- the commands that need an open connection -/
def needsConnection (c : Command) : Bool :=
  match c with
  | .user | .cd | .cdup | .ls | .put | .get | .rename | .pwd | .mkdir | .rmdir | .del | .stat | .syst | .type
  | .binary | .ascii | .size | .noop | .rhelp | .logout | .close => true
  | _ => false

/-- for every script of input lines, every server behaviour (any script, any oracle) and every working directory:
    the program ends, with success status, and it ends only because `exit` was handled or the input is exhausted -/
theorem ends_only_on_exit_or_eof (w : AppWorld) (h0 : w.ended = false) (hs : w.status = 0) :
    (main w).ended = true ∧ (main w).status = 0 ∧
    ((main w).stdin = [] ∨
      ∃ pre line args, w.stdin = pre ++ line :: (main w).stdin ∧ parseCommand line = .ok .exit args) :=
  L.run_spec _ w h0 hs (Nat.lt_succ_self _)

/-- the handlers of the commands that need a connection begin with the check -/
private theorem handler_guarded (c : Command) (args : List Bytes) (hc : needsConnection c = true) :
    ∃ k : Unit → A Unit, handler c args = needConnection >>= k := by
  cases c <;> first | exact ⟨_, rfl⟩ | cases hc

/-- a command that needs a connection, given while disconnected, answers "Connection is not open." and does nothing
    else: no network event, no input consumed, no file touched -/
theorem guard_when_disconnected (c : Command) (args : List Bytes) (w : AppWorld) (hc : needsConnection c = true)
    (hd : w.client.connected = false) :
    handle c args w = (.cmdErr (str "Connection is not open."), w) := by
  obtain ⟨k, hk⟩ := handler_guarded c args hc
  have h : handler c args w = (.cmdErr (str "Connection is not open."), w) := by
    rw [hk, L.bind_apply, L.needConnection_apply, hd]; rfl
  rw [L.handle_of_ne (by simp [h]), h]

/-- `get` never overwrites or deletes a local entry that already existed, whatever the server does and however the
    call ends -/
theorem get_preserves_existing_files (args : List Bytes) (w : AppWorld) :
    ∀ e ∈ w.fs, e ∈ (handle .get args w).2.fs := by
  rw [(L.handle_spec _ _ _).2.2.2.1]
  exact L.handler_get_fs args w

/-- `get` on a name that already exists is refused before anything is sent -/
theorem get_refuses_existing (rem loc : Bytes) (w : AppWorld) (hc : w.client.connected = true)
    (he : (lookupFs w.fs loc).isSome = true) :
    handle .get [rem, loc] w = (.cmdErr (str "File '" ++ loc ++ str "' already exists."), w) := by
  have h : handler .get [rem, loc] w = (.cmdErr (str "File '" ++ loc ++ str "' already exists."), w) := by
    rw [L.handler_get_two rem loc w hc, L.getBody_apply, if_pos he]
  rw [L.handle_of_ne (by simp [h]), h]

/-- the state in which `get` starts the transfer: the (empty) file exists, the sink is fresh -/
def started (w : AppWorld) (loc : Bytes) : AppWorld :=
  let c : World := { w.client with sink := [], sinkWrites := 0, sinkFlushes := 0, sinkFailAt := none, sinkSilent := false,
                                   polls := [], cancelled := false }
  { w with fs := w.fs ++ [(loc, some [])], client := c }

/-- when the server refuses the download (the result is not positive) the file `get` created is removed again: the
    directory is as before -/
theorem get_removes_file_of_refused_download (rem loc : Bytes) (w : AppWorld) (hc : w.client.connected = true)
    (hn : lookupFs w.fs loc = none) (hcr : creatable loc = true) (rs : Replies) (w' : AppWorld)
    (hd : App.client (download rem true) (started w loc) = (.ok rs, w'))
    (hneg : rs.isPositive = false) :
    (handle .get [rem, loc] w).2.fs = w.fs := by
  rw [(L.handle_spec _ _ _).2.2.2.1, L.handler_get_two rem loc w hc, L.getBody_apply,
    if_neg (by simp [hn]), if_neg (by simp [hcr])]
  exact (L.getRun_fs rem loc w hn).2 rs w' hd hneg

/-- after any library error the connection is dropped -/
theorem connection_dropped_after_library_error (c : Command) (args : List Bytes) (w w' : AppWorld)
    (h : handle c args w = (.ftpErr, w')) : w'.client.connected = false := by
  rw [L.handle_apply] at h
  split at h
  · rename_i w1 heq
    injection h with _ h2
    rw [← h2]
    exact L.disconnect_false_connected _
  · rename_i r hne
    exact absurd h (hne w')

/-- the loop never dies of an error: every outcome of a handler is turned into output and the loop goes on, except
    `exit` and the end of input -/
theorem step_only_ends_on_exit_or_eof (w : AppWorld) (h : (step w).ended = true) (h0 : w.ended = false) :
    w.stdin = [] ∨ (∃ line rest args, w.stdin = line :: rest ∧ parseCommand line = .ok .exit args) ∨
    (∃ line rest, w.stdin = line :: rest ∧ (step w).stdin = [] ) := by
  cases hstd : w.stdin with
  | nil => exact .inl rfl
  | cons line rest =>
    rcases L.step_cons_spec w line rest hstd h0 with ⟨e1, _⟩ | ⟨_, _, e3⟩ | ⟨_, _, _, args, e4⟩
    · rw [e1] at h; cases h
    · exact .inr (.inr ⟨line, rest, rfl, e3⟩)
    · exact .inr (.inl ⟨line, rest, args, rfl, e4⟩)

end Ftp.Props.C20
