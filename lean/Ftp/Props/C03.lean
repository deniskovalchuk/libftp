import Ftp.Lemmas.ClientData
/-
  C03 - binary download and listings deliver exactly the bytes the server sent.
  Model: `Ftp.Client.dataRecv` (data_connection::recv) behind the stream chosen by the transfer type,
  `Ftp.Client.fileList`.
-/
namespace Ftp.Props.C03
open Ftp.Client Ftp.Session Ftp.Client.DataL

/-- the sink-side events of a trace -/
def sinkEvents (tr : List Ev) : List Ev := tr.filter fun | .sinkWrite _ | .sinkWriteFail | .sinkFlush => true | _ => false

/-- a segmentation of the payload into network reads: every read returns between 1 and 8192 bytes and together they
    deliver the whole payload; afterwards the peer's close is seen as end-of-file -/
def Segmentation (payload : Bytes) (reads : List Nat) : Prop :=
  (∀ n ∈ reads, 0 < n ∧ n ≤ 8192) ∧ reads.sum = payload.length

private theorem sinkEvents_blocks (d : Nat) (reads : List Nat) (tail : List Ev) :
    sinkEvents ((reads.map fun n => [Ev.dataRead d n, Ev.sinkWrite n]).flatten ++ tail) =
      reads.map Ev.sinkWrite ++ sinkEvents tail := by
  induction reads with
  | nil => rfl
  | cons n rs ih =>
    simp only [sinkEvents, List.map_cons, List.flatten_cons, List.cons_append, List.nil_append] at ih ⊢
    simp [ih]

/-- binary download: for every payload (every length, every byte value) and every segmentation, the sink receives
    exactly the payload - appended to what it held, nothing lost, duplicated or reordered - and is asked to flush
    exactly once, after the last byte -/
theorem binary_delivers_exactly (w : World) (payload : Bytes) (reads : List Nat) (more : List (Option Nat))
    (hseg : Segmentation payload reads) (hact : w.act = some (.send payload))
    (hreads : w.dataReads = reads.map some ++ some 0 :: more) (hsink : w.sinkFailAt = none) (hsil : w.sinkSilent = false) :
    result (dataRecv false .binary) w = .ok () ∧
    (after (dataRecv false .binary) w).sink = w.sink ++ payload ∧
    (after (dataRecv false .binary) w).sinkFlushes = w.sinkFlushes + 1 ∧
    sinkEvents (added (dataRecv false .binary) w) = reads.map Ev.sinkWrite ++ [Ev.sinkFlush] ∧
    (after (dataRecv false .binary) w).dataReads = more := by
  obtain ⟨h1, h2, h3, h4, h5⟩ := dataRecv_delivers .binary w payload reads more hseg.1 hseg.2 hact hreads hsink
  refine ⟨h1, h4, h2, ?_, h3⟩
  rw [added_of_trace _ _ _ (h5 rfl hsil), sinkEvents_blocks]
  rfl

/-- the result does not depend on the segmentation -/
theorem binary_segmentation_independent (w : World) (payload : Bytes) (r1 r2 : List Nat) (m1 m2 : List (Option Nat))
    (h1 : Segmentation payload r1) (h2 : Segmentation payload r2) (hact : w.act = some (.send payload))
    (hsink : w.sinkFailAt = none) (hsil : w.sinkSilent = false) :
    (after (dataRecv false .binary) { w with dataReads := r1.map some ++ some 0 :: m1 }).sink =
    (after (dataRecv false .binary) { w with dataReads := r2.map some ++ some 0 :: m2 }).sink := by
  rw [(binary_delivers_exactly { w with dataReads := r1.map some ++ some 0 :: m1 } payload r1 m1 h1 hact rfl hsink hsil).2.1,
    (binary_delivers_exactly { w with dataReads := r2.map some ++ some 0 :: m2 } payload r2 m2 h2 hact rfl hsink hsil).2.1]

/-- ASCII download end to end: the sink receives the payload with every CR LF replaced by LF (C05), for every
    segmentation -/
theorem ascii_delivers_converted (w : World) (payload : Bytes) (reads : List Nat) (more : List (Option Nat))
    (hseg : Segmentation payload reads) (hact : w.act = some (.send payload))
    (hreads : w.dataReads = reads.map some ++ some 0 :: more) (hsink : w.sinkFailAt = none) :
    result (dataRecv false .ascii) w = .ok () ∧
    (after (dataRecv false .ascii) w).sink = w.sink ++ Spec.dlSpec payload ∧
    (after (dataRecv false .ascii) w).sinkFlushes = w.sinkFlushes + 1 := by
  obtain ⟨h1, h2, _, h4, _⟩ := dataRecv_delivers .ascii w payload reads more hseg.1 hseg.2 hact hreads hsink
  exact ⟨h1, h4, h2⟩

/-- a data stream that ends in an error (reset, truncated TLS stream) is never delivered as a complete transfer: the
    call throws and the sink is not flushed -/
theorem read_error_is_reported (w : World) (t : TType) (reads : List Nat) (more : List (Option Nat)) (payload : Bytes)
    (hpos : ∀ n ∈ reads, 0 < n) (hlen : reads.sum ≤ payload.length) (hact : w.act = some (.send payload))
    (hreads : w.dataReads = reads.map some ++ none :: more) (hsink : w.sinkFailAt = none) :
    result (dataRecv false t) w = .throw ∧ (after (dataRecv false t) w).sinkFlushes = w.sinkFlushes := by
  have hpay : payloadOf w = payload := by simp [payloadOf, hact]
  have hfuel : w.dataReads.length + 1 = reads.length + (more.length + 1 + 1) := by
    rw [hreads]; simp; omega
  obtain ⟨prev', w', h1, h2, _, h4, _⟩ := recvLoop_prefix t (dOf w) reads (more.length + 1 + 1) payload false w
    (none :: more) hreads hpos hlen hsink
  rw [recvLoop_err _ _ _ _ _ _ _ (by rw [h2]; rfl)] at h1
  have hrun := dataRecv_nocb_ok t w _ prev' true (by rw [hpay, hfuel]; exact h1)
  simp only [if_true] at hrun
  simp only [result, after, hrun]
  exact ⟨trivial, h4⟩

example :
    let w : World := { mode := .passive, ttype := .binary, rfc := true, act := some (.send (str "hello world")),
                       dataReads := [some 5, some 1, some 5, some 0], conn := some { sock := some 1 } }
    (after (dataRecv false .binary) w).sink = str "hello world" ∧
    sinkEvents (added (dataRecv false .binary) w) = [.sinkWrite 5, .sinkWrite 1, .sinkWrite 5, .sinkFlush] := by decide +kernel

end Ftp.Props.C03
