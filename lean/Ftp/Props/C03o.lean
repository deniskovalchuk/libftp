import Ftp.Props.C03
import Ftp.Lemmas.ClientOps
/-
  C03 at the level of the whole operation: `download_file` / `get_file_list` as the caller sees them - set-up command,
  transfer command, data transfer, completion reply - in all four data-connection methods.
-/
namespace Ftp.Props.C03
open Ftp.Client Ftp.Session Ftp.Props.C01
open Ftp.Client.SessL Ftp.Client.OpsL

/-- what a sink must hold after a download of `payload` with the given transfer type (C05 for ASCII) -/
def delivered (t : TType) (payload : Bytes) : Bytes :=
  match t with
  | .binary => payload
  | .ascii => Spec.dlSpec payload

/-- the set-up of the data connection succeeds: in passive mode the reply carries a parsable endpoint and the connect
    succeeds; in active mode the listening address is printable (PORT needs IPv4) -/
def SetupOk (w : World) (s : WfReply) : Prop :=
  s.code < 400 ∧
  (w.mode = .passive → w.connectOks.head? = some true ∧
      (if w.rfc then (Endpoint.parseEpsv s.text).isSome else (Endpoint.parsePasv s.text).isSome)) ∧
  (w.mode = .active → w.rfc = false → w.v6 = false)

-- the proof does not use `hconn0`, `hsil`
set_option linter.unusedVariables false in
/-- download, end to end: for every payload, every segmentation, every well-formed reply text and all four methods, in a
    session that is in step: the call returns exactly the three replies (set-up, preliminary, completion), the sink
    holds the payload (converted for ASCII type) appended to what it held, it was flushed exactly once, no data
    descriptor is left, and the session is in step again (unless the completion reply was 421) -/
theorem download_delivers (path : Bytes) (w : World) (s m c : WfReply) (payload : Bytes) (reads : List Nat)
    (more : List (Option Nat)) (rest : List SGroup)
    (hstep : InStep w []) (hconn0 : w.conn = none) (hpath : Endpoint.hasCrLf path = false)
    (hs : s.wf) (hm : m.wf) (hc : c.wf) (hsetup : SetupOk w s) (hmain : m.code < 400)
    (hsc : w.script = (⟨[s], none⟩ :: ⟨[m, c], some (.send payload)⟩ :: rest).map SGroup.enc)
    (hclose : ∀ b ∈ w.closeFails, b = false)
    (hseg : Segmentation payload reads) (hreads : w.dataReads = reads.map some ++ some 0 :: more)
    (hsink : w.sinkFailAt = none) (hsil : w.sinkSilent = false) :
    ∃ rs, result (Op.download path false).run w = .ok (.replies rs) ∧
      rs.list = [replyOf s, replyOf m, replyOf c] ∧
      (after (Op.download path false).run w).sink = w.sink ++ delivered w.ttype payload ∧
      (after (Op.download path false).run w).sinkFlushes = w.sinkFlushes + 1 ∧
      (after (Op.download path false).run w).conn = none ∧
      (c.code ≠ 421 → InStep (after (Op.download path false).run w) []) := by
  obtain ⟨hacc, hpass, hv6⟩ := hsetup
  obtain ⟨w1, d, a, hcdc, r1⟩ := cdc_accepted (str "RETR" ++ [SP] ++ path) Replies.empty w s m [c] (some (.send payload))
    rest hstep hs hm (fun r hr => by rw [List.mem_singleton.mp hr]; exact hc) hacc hmain hpass hv6 hsc
  obtain ⟨u1, u2, u3, u4, _, u6, _⟩ := Rusr.of_setup r1.step.setup
  obtain ⟨w2, hmv, f1, f2, hdat, hcf⟩ := dataRecv_sink w1 payload reads more hseg.1 hseg.2 (r1.act _ rfl)
    (u6.trans hreads) (u4.trans hsink)
  obtain ⟨w3, hfin, hsy, hc3, hconn3, ⟨_, v2, v3, _⟩, _⟩ := finish_ok _ w2 c d a (hdat.connected.trans r1.connected)
    (sync_of_dat hdat r1.sync) (hcf.1.trans r1.conn) (by rw [hcf.2, r1.closeFails]; exact hclose)
  have hdl := xfer_ready "RETR" (some path) (moveBody false (dataRecv false)) id w w1 w3 _ _ _
    (CtlL.mkCmd_succ _ _ _ hpath) hcdc (moveBody_ok false (dataRecv false) _ _ w1 w2 w3 hmv hfin)
  rw [destroyW_done w3 hconn3] at hdl
  have hop : (Op.download path false).run w =
      (.ok (.replies (((Replies.empty.append (replyOf s)).append (replyOf m)).append (replyOf c))),
        { w3 with conn := none }) := by
    simp only [Op.run, download_eq]
    rw [DataL.bind_ok hdl]
    rfl
  refine ⟨((Replies.empty.append (replyOf s)).append (replyOf m)).append (replyOf c), by simp only [result, hop],
    ?_, ?_, ?_, ?_, ?_⟩
  · simp [Replies.empty]
  · simp only [after, hop]
    rw [v2, f2, u1, u2]
    cases w.ttype <;> rfl
  · simp only [after, hop]
    rw [v3, f1, u3]
  · simp only [after, hop]
  · intro h421
    simp only [after, hop]
    exact ⟨hc3 h421, hsy⟩

-- the proof does not use `hconn0`
set_option linter.unusedVariables false in
/-- listing, end to end: the text returned is the payload (converted for ASCII type), for every payload, segmentation
    and method -/
theorem listing_delivers (path : Option Bytes) (names : Bool) (w : World) (s m c : WfReply) (payload : Bytes)
    (reads : List Nat) (more : List (Option Nat)) (rest : List SGroup)
    (hstep : InStep w []) (hconn0 : w.conn = none) (hpath : ∀ p ∈ path, Endpoint.hasCrLf p = false)
    (hs : s.wf) (hm : m.wf) (hc : c.wf) (hsetup : SetupOk w s) (hmain : m.code < 400)
    (hsc : w.script = (⟨[s], none⟩ :: ⟨[m, c], some (.send payload)⟩ :: rest).map SGroup.enc)
    (hclose : ∀ b ∈ w.closeFails, b = false)
    (hseg : Segmentation payload reads) (hreads : w.dataReads = reads.map some ++ some 0 :: more) :
    ∃ rs, result (Op.list path names).run w = .ok (.listing rs (delivered w.ttype payload)) ∧
      rs.list = [replyOf s, replyOf m, replyOf c] ∧
      (after (Op.list path names).run w).conn = none ∧
      (c.code ≠ 421 → InStep (after (Op.list path names).run w) []) := by
  obtain ⟨hacc, hpass, hv6⟩ := hsetup
  obtain ⟨cmd, hmk⟩ : ∃ cmd, mkCmd (if names then "NLST" else "LIST") path w = (.ok cmd, w) := by
    rcases path with _ | p
    · exact ⟨_, rfl⟩
    · exact ⟨_, CtlL.mkCmd_succ _ _ _ (hpath p rfl)⟩
  obtain ⟨w1, d, a, hcdc, r1⟩ := cdc_accepted cmd Replies.empty w s m [c] (some (.send payload)) rest hstep hs hm
    (fun r hr => by rw [List.mem_singleton.mp hr]; exact hc) hacc hmain hpass hv6 hsc
  obtain ⟨u1, _, _, _, _, u6, _⟩ := Rusr.of_setup r1.step.setup
  obtain ⟨w2, hmv, f1, f2, hdat, hcf⟩ := dataRecv_sink { w1 with sinkSilent := true, sink := [], sinkFailAt := none }
    payload reads more hseg.1 hseg.2 (r1.act _ rfl) (u6.trans hreads) rfl
  obtain ⟨w3, hbody, hsy, hc3, hconn3⟩ := listBody_ok _ w1 w2 c d a hmv (hdat.connected.trans r1.connected)
    (sync_of_dat hdat r1.sync) (hcf.1.trans r1.conn)
    (by rw [hcf.2]; show ∀ b ∈ w1.closeFails, b = false; rw [r1.closeFails]; exact hclose)
  have htext : w2.sink = delivered w.ttype payload := by
    rw [f2]
    show [] ++ (match w1.ttype with | .binary => payload | .ascii => Spec.dlSpec payload) = _
    rw [u1]
    cases w.ttype <;> rfl
  have hls := xfer_ready (if names then "NLST" else "LIST") path listBody (fun rs => (rs, [])) w w1 w3 _ _ _ hmk hcdc hbody
  rw [destroyW_done w3 hconn3] at hls
  have hop : (Op.list path names).run w =
      (.ok (.listing (((Replies.empty.append (replyOf s)).append (replyOf m)).append (replyOf c))
        (delivered w.ttype payload)), { w3 with conn := none }) := by
    simp only [Op.run, fileList_eq]
    rw [DataL.bind_ok hls, htext]
    rfl
  refine ⟨((Replies.empty.append (replyOf s)).append (replyOf m)).append (replyOf c), by simp only [result, hop],
    ?_, ?_, ?_⟩
  · simp [Replies.empty]
  · simp only [after, hop]
  · intro h421
    simp only [after, hop]
    exact ⟨hc3 h421, hsy⟩

/-- the world of the non-vacuity example: an EPSV download of "hello world" in three segments -/
def worldDl : World :=
  { mode := .passive, ttype := .binary, rfc := true, connected := true, connectOks := [true],
    script := [{ raws := [str "229 ok (|||5000|)\r\n"] },
               { raws := [str "150 go\r\n", str "226 done\r\n"], act := some (.send (str "hello world")) }],
    dataReads := [some 5, some 1, some 5, some 0] }

example :
    (after (Op.download (str "f") false).run worldDl).sink = str "hello world" ∧
    (after (Op.download (str "f") false).run worldDl).sinkFlushes = 1 := by
  decide +kernel

end Ftp.Props.C03
