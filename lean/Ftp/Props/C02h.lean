import Ftp.Spec.History
import Ftp.Props.C02
/-
  C02 at the level of histories: lockstep is an invariant of the whole session, not only of one call.
-/
namespace Ftp.Props.C02
open Ftp.Client Ftp.Session Ftp.Props.C01

def isConnect : Op → Prop
  | .connect _ _ _ => True
  | _ => False

/-- the hypotheses of `lockstep` for every call of a history: each call is served by a well-formed server whose reply
    groups have the RFC shapes and that answers every command, and each call returns; a call that leaves the client
    disconnected (QUIT, 421) is followed by a connect, if by anything -/
def ServedFrom : List Call → World → Prop
  | [], _ => True
  | c :: rest, w =>
    (∃ (sc : List SGroup) (o : Out), opOk c.op ∧ (c.before w).script = sc.map SGroup.enc ∧ WfScript sc ∧
        result c.op.run (c.before w) = .ok o ∧
        Shaped (exchanged c.op (writes (added c.op.run (c.before w))) sc) ∧
        (writes (added c.op.run (c.before w))).length + greetings c.op ≤ sc.length) ∧
    ((c.after w).connected = false → ∀ c' ∈ rest.head?, isConnect c'.op) ∧
    ServedFrom rest (c.after w)

/-- the conclusion of `lockstep` / `stays_in_step` for every call of a history -/
def AnsweredFrom : List Call → World → Prop
  | [], _ => True
  | c :: rest, w =>
    (∃ (sc : List SGroup) (o : Out), (c.before w).script = sc.map SGroup.enc ∧
        result c.op.run (c.before w) = .ok o ∧
        o.replyList = ((exchanged c.op (writes (added c.op.run (c.before w))) sc).map (·.2)).flatten.map replyOf ∧
        ((c.after w).connected = true → InStep (c.after w) [])) ∧
    AnsweredFrom rest (c.after w)

/-- a fair environment step leaves the session in step: it touches neither the reader's buffer nor the bytes in flight -/
private theorem inStep_env {w w' : World} {q : List WfReply} (h : EnvStep w w') (hs : InStep w q) : InStep w' q := by
  obtain ⟨h1, h2, h3, h4⟩ := hs
  refine ⟨by rw [h.connected]; exact h1, ?_, by rw [h.ctl]; exact h3, h4⟩
  unfold Pending at *
  rw [h.ctl, h.stream]; exact h2

private theorem connect_of_isConnect {op : Op} (h : isConnect op) : ∃ h p c, op = .connect h p c := by
  cases op <;> first | exact ⟨_, _, _, rfl⟩ | exact h.elim

/-- for every history of every length whose calls all return, against well-behaved servers, with any preparation of the
    environment between the calls: every call returns exactly the replies generated for the commands it sent, in order,
    and leaves nothing unread - lockstep never slips -/
theorem history_lockstep (h : List Call) (w : World) (hfair : ∀ c ∈ h, c.fair)
    (hstart : InStep w [] ∨ ∀ c ∈ h.head?, isConnect c.op)
    (hs : ServedFrom h w) : AnsweredFrom h w := by
  induction h generalizing w with
  | nil => trivial
  | cons c rest ih =>
    obtain ⟨⟨sc, o, hop, hsc, hwf, hret, hshape, hlen⟩, hdisc, hrest⟩ := hs
    have hf := hfair c List.mem_cons_self
    have hfr : ∀ c' ∈ rest, c'.fair := fun c' hc' => hfair c' (List.mem_cons_of_mem _ hc')
    have hstep : InStep (c.before w) [] ∨ ∃ h p cr, c.op = .connect h p cr := by
      rcases hstart with h | h
      · exact .inl (inStep_env (hf w) h)
      · exact .inr (connect_of_isConnect (h c (by simp)))
    have h1 := lockstep c.op (c.before w) sc hop hstep hsc hwf o hret hshape hlen
    have h2 := stays_in_step c.op (c.before w) sc hop hstep hsc hwf o hret hshape hlen
    refine ⟨⟨sc, o, hsc, hret, h1.1, h2⟩, ih (c.after w) hfr ?_ hrest⟩
    cases hc : (c.after w).connected with
    | true => exact .inl (h2 hc)
    | false => exact .inr (hdisc hc)

end Ftp.Props.C02
