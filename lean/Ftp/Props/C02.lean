import Ftp.Lemmas.ClientDialog
/-
  C02 - session lockstep: each call returns exactly the replies to its own commands.
  Model: `Ftp.Client` over the byte-level reader; the server is any script whose groups have the shapes RFC 959
  prescribes for the commands they answer (`Shaped`).
-/

namespace Ftp.Props.C02
open Ftp.Client Ftp.Session Ftp.Props.C01 Ftp.Client.SessL

def verbOf (line : Bytes) : Bytes := line.takeWhile (· != SP)
def transferVerbs : List Bytes := [str "RETR", str "STOR", str "STOU", str "APPE", str "LIST", str "NLST"]
def isTransfer (line : Bytes) : Bool := transferVerbs.contains (verbOf line)
def ABOR : Bytes := str "ABOR"

/-- a server that answers as RFC 959 prescribes: the commands received (`none` = a new connection) with the replies
    generated for each.  One reply per command; 120 may precede the greeting; a transfer command is refused (one
    negative reply) or answered by a preliminary reply and - unless the client aborts before the server has finished -
    a completion reply; ABOR of a transfer that is still running is answered 426 + a second reply, otherwise by one
    reply.  (Out of scope, see the counterexample theorems: ABOR arriving after the server already completed the
    transfer; REIN answered 120 + 220.) -/
inductive Shaped : List (Option Bytes × List WfReply) → Prop
  | nil : Shaped []
  | greeting (g : WfReply) (rest) : g.code ≠ 120 → Shaped rest → Shaped ((none, [g]) :: rest)
  | greeting120 (g0 g : WfReply) (rest) : g0.code = 120 → Shaped rest → Shaped ((none, [g0, g]) :: rest)
  | simple (l : Bytes) (r : WfReply) (rest) : isTransfer l = false → l ≠ ABOR → Shaped rest → Shaped ((some l, [r]) :: rest)
  | refused (l : Bytes) (m : WfReply) (rest) : isTransfer l = true → 400 ≤ m.code → Shaped rest → Shaped ((some l, [m]) :: rest)
  | completed (l : Bytes) (m c : WfReply) (rest) : isTransfer l = true → m.code < 200 →
      (∀ g, rest.head? ≠ some (some ABOR, g)) → Shaped rest → Shaped ((some l, [m, c]) :: rest)
  | aborted426 (l : Bytes) (m a1 a2 : WfReply) (rest) : isTransfer l = true → m.code < 200 → a1.code = 426 →
      Shaped rest → Shaped ((some l, [m]) :: (some ABOR, [a1, a2]) :: rest)
  | aborted (l : Bytes) (m a : WfReply) (rest) : isTransfer l = true → m.code < 200 → a.code ≠ 426 →
      Shaped rest → Shaped ((some l, [m]) :: (some ABOR, [a]) :: rest)

/-- the library's own verbs -/
def opOk : Op → Prop
  | .simple v _ => v ∈ ["CWD", "CDUP", "PWD", "DELE", "MKD", "RMD", "SIZE", "MDTM", "STAT", "SYST", "HELP", "SITE", "NOOP"]
  | .upload v _ _ => v ∈ ["STOR", "STOU", "APPE"]
  | _ => True

/-- the commands of a call paired with the groups the server played for them -/
def exchanged (op : Op) (lines : List Bytes) (sc : List SGroup) : List (Option Bytes × List WfReply) :=
  match op with
  | .connect _ _ _ =>
    (match sc with
     | [] => []
     | g :: gs => (none, g.replies) :: (lines.map fun l => some (lineOf l)).zip (gs.map (·.replies)))
  | _ => (lines.map fun l => some (lineOf l)).zip (sc.map (·.replies))

/-! ### private helpers: the client's reading pattern against the shapes of the server's groups -/

private theorem isTransfer_eq (l : Bytes) : isTransfer l = xIsTransfer l := rfl
private theorem abor_eq : ABOR = xABOR := rfl
private theorem opOk_iff (op : Op) : opOk op ↔ xOpOk op := by cases op <;> exact Iff.rfl

private theorem consumedOf_cons (o : Option Bytes) (c : List WfReply) (rest : List (Option Bytes × List WfReply)) :
    consumedOf ((o, c) :: rest) = c ++ consumedOf rest := rfl

private theorem length_two {α} {l : List α} (h : l.length = 2) : ∃ a b, l = [a, b] := by
  rcases l with _ | ⟨a, _ | ⟨b, _ | ⟨c, t⟩⟩⟩ <;> simp at h
  exact ⟨a, b, rfl⟩

/-! what the shape says about the first group, by the kind of its command -/

private theorem shaped_none {g : List WfReply} {Z : List (Option Bytes × List WfReply)}
    (h : Shaped ((none, g) :: Z)) :
    Shaped Z ∧ ((∃ x, g = [x] ∧ x.code ≠ 120) ∨ ∃ x y, g = [x, y] ∧ x.code = 120) := by
  cases h with
  | greeting x _ hne h => exact ⟨h, .inl ⟨x, rfl, hne⟩⟩
  | greeting120 x y _ h120 h => exact ⟨h, .inr ⟨x, y, rfl, h120⟩⟩

private theorem shaped_simple {l : Bytes} {g : List WfReply} {Z : List (Option Bytes × List WfReply)}
    (hl : isTransfer l = false) (h : Shaped ((some l, g) :: Z)) : ∃ r, g = [r] ∧ Shaped Z := by
  cases h with
  | simple _ r _ _ _ h => exact ⟨r, rfl, h⟩
  | refused _ _ _ ht => rw [hl] at ht; cases ht
  | completed _ _ _ _ ht => rw [hl] at ht; cases ht
  | aborted426 _ _ _ _ _ ht => rw [hl] at ht; cases ht
  | aborted _ _ _ _ ht => rw [hl] at ht; cases ht

/-- a transfer command is refused, or completed (and no ABOR follows), or answered by a preliminary reply and aborted -/
private theorem shaped_xfer {l : Bytes} {g : List WfReply} {Z : List (Option Bytes × List WfReply)}
    (hl : isTransfer l = true) (h : Shaped ((some l, g) :: Z)) :
    (∃ m, g = [m] ∧ 400 ≤ m.code) ∨
    (∃ m c, g = [m, c] ∧ m.code < 200 ∧ ∀ a, Z.head? ≠ some (some ABOR, a)) ∨
    (∃ m, g = [m] ∧ m.code < 200 ∧ ∃ a Z', Z = (some ABOR, a) :: Z' ∧
      ((∃ a1 a2, a = [a1, a2] ∧ a1.code = 426) ∨ ∃ a1, a = [a1] ∧ a1.code ≠ 426)) := by
  cases h with
  | simple _ _ _ hn => rw [hl] at hn; cases hn
  | refused _ m _ _ hm => exact .inl ⟨m, rfl, hm⟩
  | completed _ m c _ _ hm hnext => exact .inr (.inl ⟨m, c, rfl, hm, hnext⟩)
  | aborted426 _ m a1 a2 _ _ hm h426 => exact .inr (.inr ⟨m, rfl, hm, _, _, rfl, .inl ⟨a1, a2, rfl, h426⟩⟩)
  | aborted _ m a _ _ hm h426 => exact .inr (.inr ⟨m, rfl, hm, _, _, rfl, .inr ⟨a, rfl, h426⟩⟩)

/-- when the groups the server generated have the RFC shapes for the commands sent, the replies the client consumed
    per command are exactly the groups: nothing is left unread -/
private theorem shaped_pat {D : List (Option Bytes × List WfReply)} (hp : Pat D) :
    ∀ (G : List (List WfReply)) (q : List WfReply), G.length = D.length → Shaped ((D.map (·.1)).zip G) →
      G.flatten = consumedOf D ++ q → q = [] ∧ G = D.map (·.2) := by
  induction hp with
  | nil =>
    intro G q hlen _ hfl
    obtain rfl : G = [] := List.length_eq_zero_iff.mp hlen
    exact ⟨by simpa [consumedOf] using hfl.symm, rfl⟩
  | greet1 x rest hx _ ih =>
    intro G q hlen hsh hfl
    obtain ⟨g, G', rfl⟩ := List.exists_cons_of_length_eq_add_one hlen
    obtain ⟨hsh', ⟨y, rfl, _⟩ | ⟨y, z, rfl, h120⟩⟩ := shaped_none hsh <;>
      simp only [consumedOf_cons, List.flatten_cons, List.cons_append, List.nil_append, List.cons.injEq] at hfl
    · obtain ⟨hq, hG⟩ := ih G' q (by simpa using hlen) hsh' hfl.2
      exact ⟨hq, by simp [hG, hfl.1]⟩
    · exact absurd (hfl.1 ▸ h120) hx
  | greet2 x y rest hx _ ih =>
    intro G q hlen hsh hfl
    obtain ⟨g, G', rfl⟩ := List.exists_cons_of_length_eq_add_one hlen
    obtain ⟨hsh', ⟨z, rfl, hne⟩ | ⟨z, u, rfl, _⟩⟩ := shaped_none hsh <;>
      simp only [consumedOf_cons, List.flatten_cons, List.cons_append, List.nil_append, List.cons.injEq] at hfl
    · exact absurd (hfl.1 ▸ hx) hne
    · obtain ⟨hq, hG⟩ := ih G' q (by simpa using hlen) hsh' hfl.2.2
      exact ⟨hq, by simp [hG, hfl.1, hfl.2.1]⟩
  | one l x rest hl _ ih =>
    intro G q hlen hsh hfl
    obtain ⟨g, G', rfl⟩ := List.exists_cons_of_length_eq_add_one hlen
    obtain ⟨r, rfl, hsh'⟩ := shaped_simple hl.1 hsh
    simp only [consumedOf_cons, List.flatten_cons, List.cons_append, List.nil_append, List.cons.injEq] at hfl
    obtain ⟨hq, hG⟩ := ih G' q (by simpa using hlen) hsh' hfl.2
    exact ⟨hq, by simp [hG, hfl.1]⟩
  | xferNeg l m ht hm =>
    intro G q hlen hsh hfl
    obtain ⟨g, rfl⟩ := List.length_eq_one_iff.mp hlen
    rcases shaped_xfer ht hsh with ⟨m', rfl, _⟩ | ⟨m', c', rfl, hm', _⟩ | ⟨_, _, _, _, _, hZ, _⟩ <;>
      simp [consumedOf] at hfl
    · exact ⟨hfl.2, by simp [hfl.1]⟩
    · have := hfl.1 ▸ hm'; omega
    · cases hZ
  | xferDone l m c ht hm =>
    intro G q hlen hsh hfl
    obtain ⟨g, rfl⟩ := List.length_eq_one_iff.mp hlen
    rcases shaped_xfer ht hsh with ⟨m', rfl, _⟩ | ⟨m', c', rfl, _, _⟩ | ⟨_, _, _, _, _, hZ, _⟩ <;>
      simp [consumedOf] at hfl
    · exact ⟨hfl.2.2, by simp [hfl.1, hfl.2.1]⟩
    · cases hZ
  | xferAbort1 l m a ht hm ha =>
    intro G q hlen hsh hfl
    obtain ⟨g, g2, rfl⟩ := length_two hlen
    rcases shaped_xfer ht hsh with ⟨m', rfl, hm'⟩ | ⟨_, _, _, _, hnext⟩ | ⟨m', rfl, _, _, _, hZ, hab⟩
    · simp [consumedOf] at hfl
      have := hfl.1 ▸ hm'; omega
    · exact absurd rfl (hnext g2)
    · obtain rfl := (Prod.mk.inj (List.cons.inj hZ).1).2
      rcases hab with ⟨a1, a2, rfl, h426⟩ | ⟨a1, rfl, _⟩ <;> simp [consumedOf] at hfl
      · exact absurd (hfl.2.1 ▸ h426) ha
      · exact ⟨hfl.2.2, by simp [hfl.1, hfl.2.1]⟩
  | xferAbort2 l m a b ht hm ha =>
    intro G q hlen hsh hfl
    obtain ⟨g, g2, rfl⟩ := length_two hlen
    rcases shaped_xfer ht hsh with ⟨m', rfl, hm'⟩ | ⟨_, _, _, _, hnext⟩ | ⟨m', rfl, _, _, _, hZ, hab⟩
    · simp [consumedOf] at hfl
      have := hfl.1 ▸ hm'; omega
    · exact absurd rfl (hnext g2)
    · obtain rfl := (Prod.mk.inj (List.cons.inj hZ).1).2
      rcases hab with ⟨a1, a2, rfl, _⟩ | ⟨a1, rfl, _⟩ <;> simp [consumedOf] at hfl
      exact ⟨hfl.2.2.2, by simp [hfl.1, hfl.2.1, hfl.2.2.1]⟩

private theorem gen_eq_take (gs : List SGroup) (n : Nat) (h : n ≤ gs.length) :
    gen gs n = (gs.map (·.replies)).take n := by
  induction n generalizing gs with
  | zero => simp [gen]
  | succ n ih =>
    rcases gs with _ | ⟨g, gs'⟩
    · simp at h
    · simp only [gen, nextG, List.head?_cons, Option.getD_some, List.tail_cons, List.map_cons, List.take_succ_cons]
      rw [ih gs' (by simpa using h)]

private theorem zip_take {α β} (l : List α) (xs : List β) : l.zip (xs.take l.length) = l.zip xs := by
  induction l generalizing xs with
  | nil => simp
  | cons a l ih =>
    rcases xs with _ | ⟨x, xs⟩
    · simp
    · simp [ih]

private theorem lines_map (L : List Bytes) : (L.map (· ++ CRLF)).map (fun l => some (lineOf l)) = L.map some := by
  simp [List.map_map, Function.comp_def]

/-- the conclusion of lockstep from the dialog of the call -/
private theorem finish {w' : World} {w : World} {G : List (List WfReply)} {D : List (Option Bytes × List WfReply)}
    {q' : List WfReply} {o : Out} (hd : Dlg w w' G D q') (ho : o.replyList = (consumedOf D).map replyOf)
    (E : List (Option Bytes × List WfReply)) (hE : E = (D.map (·.1)).zip G) (hsh : Shaped E) :
    o.replyList = (E.map (·.2)).flatten.map replyOf ∧ Sync w' [] := by
  obtain ⟨hq, hG⟩ := shaped_pat hd.pat G q' hd.len (hE ▸ hsh) hd.led
  subst hq
  have hsnd : E.map (·.2) = G := by
    rw [hE]
    exact List.map_snd_zip (by simp [hd.len])
  refine ⟨?_, hd.sync⟩
  rw [ho, hsnd, hd.led, List.append_nil]

/-- the number of reply groups a call consumes without sending a command: the greeting of a connect -/
def greetings : Op → Nat
  | .connect _ _ _ => 1
  | _ => 0

/-- lockstep, for a script that is at least as long as the number of commands the call sends -/
private theorem lockstep_core (op : Op) (w : World) (sc : List SGroup) (hop : opOk op)
    (hstep : InStep w [] ∨ (∃ h p c, op = .connect h p c))
    (hsc : w.script = sc.map SGroup.enc) (hwf : WfScript sc)
    (o : Out) (hret : result op.run w = .ok o)
    (hshape : Shaped (exchanged op (writes (added op.run w)) sc))
    (hlen : (writes (added op.run w)).length + greetings op ≤ sc.length) :
    o.replyList = ((exchanged op (writes (added op.run w)) sc).map (·.2)).flatten.map replyOf ∧
    Sync (after op.run w) [] := by
  have h := CtlL.run_of_result hret
  by_cases hc : ∃ hh p c, op = .connect hh p c
  · obtain ⟨hh, p, c, rfl⟩ := hc
    simp only [Op.run, CtlL.bind_ok, CtlL.pure_ok] at h
    obtain ⟨rs, w1, h1, ho, hw1⟩ := h
    subst ho
    obtain ⟨g, gs', D, q', rfl, hd, hl, hfst⟩ := connect_dlg h1 hsc hwf
    rw [hw1] at hd
    have hwr : writes (added (Op.connect hh p c).run w) = linesOf D := (CtlL.Ext.added hd.ext).1
    rw [hwr] at hshape hlen ⊢
    have hlenD : D.length = 1 + (D.filterMap (·.1)).length := by
      have := congrArg List.length hfst
      simpa [Nat.add_comm] using this
    refine finish hd (by simpa [Out.replyList] using hl) _ ?_ hshape
    simp only [exchanged, linesOf, lines_map, hfst, List.zip_cons_cons]
    congr 1
    have : D.length - 1 = ((D.filterMap (·.1)).map some).length := by simp [hlenD]
    rw [this, gen_eq_take _ _ (by simpa [linesOf, greetings] using hlen), zip_take]
  · have hne : ∀ hh p c, op ≠ .connect hh p c := fun hh p c e => hc ⟨hh, p, c, e⟩
    have hstep' : InStep w [] := by
      rcases hstep with hs | hs
      · exact hs
      · exact absurd hs hc
    have hst : St w [] sc := ⟨hstep'.2, hsc, hwf⟩
    obtain ⟨D, q', hd, hl, hfst⟩ := run_dlg op hne ((opOk_iff op).mp hop) hst h
    have hwr : writes (added op.run w) = linesOf D := (CtlL.Ext.added hd.ext).1
    rw [hwr] at hshape hlen ⊢
    have hlenD : D.length = (D.filterMap (·.1)).length := by
      have := congrArg List.length hfst
      simpa using this
    have hex : exchanged op (linesOf D) sc = (D.map (·.1)).zip (gen sc D.length) := by
      have e1 : exchanged op (linesOf D) sc = ((linesOf D).map fun l => some (lineOf l)).zip (sc.map (·.replies)) := by
        cases op <;> first | rfl | exact absurd rfl (hne _ _ _)
      have hle : D.length ≤ sc.length := by
        have : greetings op = 0 := by
          cases op <;> first | rfl | exact absurd rfl (hne _ _ _)
        rw [this] at hlen
        simpa [linesOf, hlenD] using hlen
      rw [e1, linesOf, lines_map, ← hfst, gen_eq_take _ _ hle]
      have : D.length = (D.map (·.1)).length := by simp
      rw [this, zip_take]
    exact finish hd hl _ hex hshape

/-- lockstep: for every API call that returns, in a session that is in step (nothing unread), against every
    well-formed server whose reply groups have the RFC shapes for the commands the call sent and whose script has a
    group for every command the call sends (`hlen`; plus the greeting of a connect - past the end of its script the
    model's server answers "500 script exhausted", which `exchanged` does not see): the replies returned are exactly
    the replies generated for the connection opened / the commands sent during the call, in order, and nothing is
    left unread -/
theorem lockstep (op : Op) (w : World) (sc : List SGroup) (hop : opOk op)
    (hstep : InStep w [] ∨ (∃ h p c, op = .connect h p c))
    (hsc : w.script = sc.map SGroup.enc) (hwf : WfScript sc)
    (o : Out) (hret : result op.run w = .ok o)
    (hshape : Shaped (exchanged op (writes (added op.run w)) sc))
    (hlen : (writes (added op.run w)).length + greetings op ≤ sc.length) :
    o.replyList = ((exchanged op (writes (added op.run w)) sc).map (·.2)).flatten.map replyOf ∧
    Pending (after op.run w).ctl (after op.run w).net [] := by
  obtain ⟨h1, h2⟩ := lockstep_core op w sc hop hstep hsc hwf o hret hshape hlen
  exact ⟨h1, h2.1⟩

/-- ... so the next call starts in step again (unless the server ended the session with 421) -/
theorem stays_in_step (op : Op) (w : World) (sc : List SGroup) (hop : opOk op)
    (hstep : InStep w [] ∨ (∃ h p c, op = .connect h p c))
    (hsc : w.script = sc.map SGroup.enc) (hwf : WfScript sc)
    (o : Out) (hret : result op.run w = .ok o)
    (hshape : Shaped (exchanged op (writes (added op.run w)) sc))
    (hlen : (writes (added op.run w)).length + greetings op ≤ sc.length)
    (hconn : (after op.run w).connected = true) :
    InStep (after op.run w) [] := by
  obtain ⟨_, h2⟩ := lockstep_core op w sc hop hstep hsc hwf o hret hshape hlen
  exact ⟨hconn, h2⟩

/-! #### the statements `lockstep` and `stays_in_step` are false for a script that is shorter than the number of
    commands sent: the model then plays "500 script exhausted" for the extra commands, but `exchanged` (a `zip`) drops
    them, so `Shaped` says nothing about them -/

private def cexW1 : World := { mode := .passive, ttype := .binary, rfc := true, connected := true }

private def cexChk1 : Bool :=
  match result (Op.simple "NOOP" none).run cexW1 with
  | .ok o => o.replyList.length == 1
  | .throw => false

/-- counterexample to `lockstep` as stated: NOOP against the empty script (`sc = []`): the call returns the reply
    "500 script exhausted", `exchanged` is empty (hence `Shaped`), but the returned reply list is not empty -/
theorem lockstep_needs_full_script :
    ¬ (∀ (op : Op) (w : World) (sc : List SGroup), opOk op → (InStep w [] ∨ (∃ h p c, op = .connect h p c)) →
        w.script = sc.map SGroup.enc → WfScript sc → ∀ (o : Out), result op.run w = .ok o →
        Shaped (exchanged op (writes (added op.run w)) sc) →
        o.replyList = ((exchanged op (writes (added op.run w)) sc).map (·.2)).flatten.map replyOf ∧
        Pending (after op.run w).ctl (after op.run w).net []) := by
  intro H
  have hchk : cexChk1 = true := by decide +kernel
  unfold cexChk1 at hchk
  split at hchk
  · rename_i o heq
    have hstep : InStep cexW1 [] := ⟨rfl, .inl rfl, Nat.zero_le _, by simp⟩
    have := (H (.simple "NOOP" none) cexW1 [] (by simp [opOk]) (.inl hstep) rfl (by intro g hg; cases hg) o heq
      (by simp [exchanged]; exact Shaped.nil)).1
    simp [exchanged] at this
    rw [this] at hchk
    simp at hchk
  · cases hchk

private def r229 : WfReply := ⟨229, [⟨str "229 ok (|||5000|)", true⟩]⟩
private def r150 : WfReply := ⟨150, [⟨str "150 go", true⟩]⟩
private def r226 : WfReply := ⟨226, [⟨str "226 transfer complete", true⟩]⟩

private theorem r229_wf : r229.wf :=
  wf_single (by decide +kernel)

private theorem r150_wf : r150.wf :=
  wf_single (by decide +kernel)

private theorem r226_wf : r226.wf :=
  wf_single (by decide +kernel)

/-- the script of finding K1 cut after the transfer group -/
private def cexSc : List SGroup := [⟨[r229], none⟩, ⟨[r150, r226], some (.send (str "hello"))⟩]

private def cexW2 : World :=
  { mode := .passive, ttype := .binary, rfc := true, connected := true, connectOks := [true],
    script := cexSc.map SGroup.enc, dataReads := [some 5], polls := [false, true] }

private def cexChk2 : Bool :=
  match result (Op.download (str "f") true).run cexW2 with
  | .ok _ => true
  | .throw => false

/-- counterexample to `stays_in_step` (and to the second half of `lockstep`) as stated: the cancelled download of
    finding K1 against a script that ends after the transfer group.  The ABOR is answered "500 script exhausted" by
    the model, `exchanged` drops it, the two remaining groups have the shapes `simple` and `completed`, the call
    returns and the client is still connected - but the reply to ABOR stays unread -/
theorem stays_in_step_needs_full_script :
    ¬ (∀ (op : Op) (w : World) (sc : List SGroup), opOk op → (InStep w [] ∨ (∃ h p c, op = .connect h p c)) →
        w.script = sc.map SGroup.enc → WfScript sc → ∀ (o : Out), result op.run w = .ok o →
        Shaped (exchanged op (writes (added op.run w)) sc) → (after op.run w).connected = true →
        InStep (after op.run w) []) := by
  intro H
  have hchk : cexChk2 = true := by decide +kernel
  unfold cexChk2 at hchk
  split at hchk
  · rename_i o heq
    have hstep : InStep cexW2 [] := ⟨rfl, .inl rfl, Nat.zero_le _, by simp⟩
    have hwf : WfScript cexSc := by simp [WfScript, cexSc, r229_wf, r150_wf, r226_wf]
    have hex : exchanged (Op.download (str "f") true) (writes (added (Op.download (str "f") true).run cexW2)) cexSc =
        [(some (str "EPSV"), [r229]), (some (str "RETR f"), [r150, r226])] := by decide +kernel
    have hsh : Shaped (exchanged (Op.download (str "f") true) (writes (added (Op.download (str "f") true).run cexW2)) cexSc) := by
      rw [hex]
      exact Shaped.simple _ _ _ (by decide) (by decide)
        (Shaped.completed _ _ _ _ (by decide) (by decide) (by intro g h; cases h) Shaped.nil)
    have hconn : (after (Op.download (str "f") true).run cexW2).connected = true := by decide +kernel
    have := (H (.download (str "f") true) cexW2 cexSc trivial (.inl hstep) rfl hwf o heq hsh hconn).2.1
    unfold Pending at this
    revert this
    decide +kernel
  · cases hchk

/-- the world of recorded finding K1: the server had already completed the transfer (150, data, 226) when the client's
    ABOR arrives, and answers ABOR with a single 226 -/
def worldK1 : World :=
  { mode := .passive, ttype := .binary, rfc := true, connected := true, connectOks := [true],
    script := [{ raws := [str "229 ok (|||5000|)\r\n"] },
               { raws := [str "150 go\r\n", str "226 transfer complete\r\n"], act := some (.send (str "hello")) },
               { raws := [str "226 abort ok\r\n"] }],
    dataReads := [some 5], polls := [false, true] }

private def chkK1 : Bool :=
  match result (Op.download (str "f") true).run worldK1 with
  | .ok (.replies rs) => decide (rs.list.map (·.code) = [229, 150, 226])
  | _ => false

/-- counterexample (K1): the cancelled download returns, but it has read only one of the two remaining replies: the
    reply to ABOR stays unread -/
theorem fails_on_abor_after_completion :
    ∃ rs, result (Op.download (str "f") true).run worldK1 = .ok (.replies rs) ∧
      rs.list.map (·.code) = [229, 150, 226] ∧
      (after (Op.download (str "f") true).run worldK1).net.stream = str "226 abort ok\r\n" := by
  have h : chkK1 = true := by decide +kernel
  unfold chkK1 at h
  split at h
  · rename_i rs heq
    exact ⟨rs, heq, of_decide_eq_true h, by decide +kernel⟩
  · cases h

/-- the world of recorded finding K2: REIN answered 120 then 220 -/
def worldK2 : World :=
  { mode := .passive, ttype := .binary, rfc := true, connected := true,
    script := [{ raws := [str "120 wait\r\n", str "220 ready\r\n"] }] }

private def chkK2 : Bool :=
  match result Op.logout.run worldK2 with
  | .ok (.reply r) => decide (r.code = 120)
  | _ => false

/-- counterexample (K2): `logout` returns one reply, the 220 stays unread (it sits in the reader's buffer: the whole
    group "120 ... 220 ..." was delivered by one read) -/
theorem fails_on_rein_120 :
    ∃ r, result Op.logout.run worldK2 = .ok (.reply r) ∧ r.code = 120 ∧
      (after Op.logout.run worldK2).ctl.buf ++ (after Op.logout.run worldK2).net.stream = str "220 ready\r\n" := by
  have h : chkK2 = true := by decide +kernel
  unfold chkK2 at h
  split at h
  · rename_i r heq
    exact ⟨r, heq, of_decide_eq_true h, by decide +kernel⟩
  · cases h

end Ftp.Props.C02
