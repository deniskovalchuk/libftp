import Ftp.Spec.Pure
/-
  C15 - reply classes partition the codes; aggregates are positive iff all members are.
  Model: `Ftp.Reply`, `Ftp.Replies` (src/reply.cpp, src/replies.cpp).
-/
namespace Ftp.Props.C15

/-- every reply that carries a code is exactly one of positive (< 400) / negative (≥ 400);
    intermediate (300-399) is a subset of positive -/
theorem class_partition (c : Nat) (t : Bytes) (h : c ≠ 65535) :
    let r : Reply := ⟨c, t⟩
    (r.isPositive = true ↔ c < 400) ∧ (r.isNegative = true ↔ 400 ≤ c) ∧
    (r.isPositive = !r.isNegative) ∧
    (r.isIntermediate = true ↔ (300 ≤ c ∧ c < 400)) ∧
    (r.isIntermediate = true → r.isPositive = true) := by
  have h1 : (c != 65535) = true := by simpa using h
  simp only [Reply.isPositive, Reply.isNegative, Reply.isIntermediate, unspecified, h1, Bool.true_and,
    decide_eq_true_eq, ge_iff_le, Bool.and_eq_true]
  refine ⟨trivial, trivial, ?_, trivial, ?_⟩
  · by_cases hc : c < 400 <;> simp [hc] <;> omega
  · intro h2; exact h2.2

/-- a default-constructed reply (and any reply with the sentinel code) is none of the three -/
theorem default_none (t : Bytes) :
    let r : Reply := ⟨65535, t⟩
    r.isPositive = false ∧ r.isNegative = false ∧ r.isIntermediate = false ∧
    Reply.default.code = 65535 ∧ Reply.default.text = [] := by
  simp [Reply.isPositive, Reply.isNegative, Reply.isIntermediate, unspecified, Reply.default]

/-- the model's classification is the reference classification -/
theorem model_eq_spec (r : Reply) :
    r.isPositive = Spec.isPositive r.code ∧ r.isNegative = Spec.isNegative r.code ∧
    r.isIntermediate = Spec.isIntermediate r.code := by
  simp [Reply.isPositive, Reply.isNegative, Reply.isIntermediate, Spec.isPositive, Spec.isNegative,
    Spec.isIntermediate, unspecified]

private theorem status_snoc (pre : List Bytes) (t : Bytes) :
    Spec.intercalateCRLF (pre ++ [t]) =
      if pre.isEmpty then t else Spec.intercalateCRLF pre ++ [CR, LF] ++ t := by
  induction pre with
  | nil => simp [Spec.intercalateCRLF]
  | cons a pre ih =>
    cases pre with
    | nil => simp [Spec.intercalateCRLF]
    | cons b pre =>
      simp only [List.cons_append, Spec.intercalateCRLF, List.isEmpty_cons, Bool.false_eq_true, if_false] at ih ⊢
      rw [ih]; simp

/-- the invariant of `replies::append` -/
private def Inv (a : Replies) (pre : List Reply) : Prop :=
  a.list = pre ∧ a.isPositive = Spec.aggPositive pre ∧ a.status = Spec.aggStatus pre

/-- `replies::append` to a non-empty aggregate, without the case distinction on the new member -/
private theorem append_nonempty (a : Replies) (r : Reply) (h : a.list.isEmpty = false) :
    a.append r = { list := a.list ++ [r], isPositive := a.isPositive && r.isPositive,
                   status := a.status ++ [CR, LF] ++ r.text } := by
  unfold Replies.append
  cases r.isPositive <;> simp [h]

private theorem inv_step (a : Replies) (pre : List Reply) (r : Reply) (h : Inv a pre) :
    Inv (a.append r) (pre ++ [r]) := by
  obtain ⟨hl, hp, hs⟩ := h
  have hpos : r.isPositive = Spec.isPositive r.code := (model_eq_spec r).1
  cases pre with
  | nil =>
    simp only [Replies.append, hl, List.isEmpty_nil, if_true]
    exact ⟨by simp, by simp [Spec.aggPositive, hpos], by simp [hs, Spec.aggStatus, Spec.intercalateCRLF]⟩
  | cons p pre =>
    have hst : Spec.aggStatus (p :: (pre ++ [r])) = Spec.aggStatus (p :: pre) ++ [CR, LF] ++ r.text := by
      simpa [Spec.aggStatus] using status_snoc ((p :: pre).map (·.text)) r.text
    rw [append_nonempty a r (by simp [hl])]
    exact ⟨by simp [hl], by simp [hp, hpos, Spec.aggPositive, Bool.and_assoc], by simp [hs, hst]⟩

private theorem inv_fold (rs : List Reply) (a : Replies) (pre : List Reply) (h : Inv a pre) :
    Inv (rs.foldl Replies.append a) (pre ++ rs) := by
  induction rs generalizing a pre with
  | nil => simpa using h
  | cons r rs ih =>
    have := ih (a.append r) (pre ++ [r]) (inv_step a pre r h)
    simpa using this

/-- an aggregate is positive exactly when it is non-empty and every member is positive, lists its members in
    arrival order, and its status text is the members' texts joined by CR LF -/
theorem aggregate (rs : List Reply) :
    (Replies.appendAll rs).isPositive = (!rs.isEmpty && rs.all (fun r => r.isPositive)) ∧
    (Replies.appendAll rs).list = rs ∧
    (Replies.appendAll rs).status = Spec.intercalateCRLF (rs.map (·.text)) := by
  have h := inv_fold rs Replies.empty [] ⟨rfl, by simp [Replies.empty, Spec.aggPositive],
    by simp [Replies.empty, Spec.aggStatus, Spec.intercalateCRLF]⟩
  obtain ⟨hl, hp, hs⟩ := h
  simp only [List.nil_append] at hl hp hs
  refine ⟨?_, hl, hs⟩
  show (List.foldl Replies.append Replies.empty rs).isPositive = _
  rw [hp, Spec.aggPositive]
  congr 1

/-- non-vacuity: a mixed aggregate -/
example : (Replies.appendAll [⟨150, str "150 a"⟩, ⟨550, str "550 b"⟩, ⟨226, []⟩]).isPositive = false ∧
    (Replies.appendAll [⟨150, str "150 a"⟩, ⟨226, str "226 b"⟩]).isPositive = true ∧
    (Replies.appendAll [⟨150, str "1"⟩, ⟨226, str "2"⟩]).status = [49, 13, 10, 50] := by decide +kernel

end Ftp.Props.C15
