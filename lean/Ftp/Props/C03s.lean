import Ftp.Generated.SourceFacts
import Ftp.Props.C03
/-
  C03, tie to the source by translation: the block buffer of data_connection::recv in src/data_connection.cpp now has the
  size the model's read loop (and `Segmentation`) assumes.
-/
namespace Ftp.Props.C03

theorem recv_block_is_the_sources : Generated.recvBlock = 8192 := by decide

end Ftp.Props.C03
