import Ftp.Lemmas.ClientData
import Ftp.Lemmas.ClientCtl
/-
  C12 - transfer callbacks bracket and count the transfer; cancellation stops and aborts.
  Model: `Ftp.Client.dataRecv` / `dataSend` with a callback, `finishTransfer`, `processAbort`.
-/
namespace Ftp.Props.C12
open Ftp.Client Ftp.Session Ftp.Client.DataL

/-- payload movements over the data connection -/
def moved : Ev → Option Nat
  | .dataRead _ n => if n = 0 then none else some n
  | .dataWrite _ n => some n
  | _ => none

/-- the callback events and the block movements of a trace, in order -/
def cbView (tr : List Ev) : List Ev := tr.filter fun e => isCb e || (moved e).isSome

/-- after `begin`: each block is moved, then notified with its size, then cancellation is polled; a poll that reports
    true is followed by `end` at once (no further block); otherwise `end` comes after the last block -/
def bodyOk : List Ev → Bool
  | [.cbEnd] => true
  | mv :: .cbNotify n :: .cbPoll b :: rest =>
    (moved mv == some n) && (n ≤ 8192) && (if b then rest == [.cbEnd] else bodyOk rest)
  | _ => false

/-- the shape of a transfer with a callback: cancelled before the start (a single poll, nothing else: no begin, no
    end, no byte), or poll - begin - blocks - end -/
def shapeOk : List Ev → Bool
  | [.cbPoll true] => true
  | .cbPoll false :: .cbBegin :: rest => bodyOk rest
  | _ => false

private def notif : Ev → Option Nat
  | .cbNotify n => some n
  | _ => none

private theorem quiet_view {e : Ev} (h : quiet e = true) :
    (isCb e || (moved e).isSome) = false ∧ notif e = none ∧ moved e = none := by
  cases e with
  | dataRead d n => cases n <;> simp_all [quiet, isCb, moved, notif]
  | _ => simp_all [quiet, isCb, moved, notif]

private theorem cbView_quiet (s : List Ev) (h : ∀ e ∈ s, quiet e = true) :
    cbView s = [] ∧ s.filterMap notif = [] ∧ s.filterMap moved = [] :=
  ⟨List.filter_eq_nil_iff.mpr fun e he => Bool.eq_false_iff.mp (quiet_view (h e he)).1,
    List.filterMap_eq_nil_iff.mpr fun e he => (quiet_view (h e he)).2.1,
    List.filterMap_eq_nil_iff.mpr fun e he => (quiet_view (h e he)).2.2⟩

private theorem cbView_append (l₁ l₂ : List Ev) : cbView (l₁ ++ l₂) = cbView l₁ ++ cbView l₂ := by
  simp [cbView]

private theorem cbView_pos {e : Ev} (l : List Ev) (h : (isCb e || (moved e).isSome) = true) :
    cbView (e :: l) = e :: cbView l := List.filter_cons_of_pos h

private theorem cbView_neg {e : Ev} (l : List Ev) (h : (isCb e || (moved e).isSome) = false) :
    cbView (e :: l) = cbView l := List.filter_cons_of_neg (Bool.eq_false_iff.mp h)

private theorem move_view {n : Nat} {mv : Ev} (h : isMove n mv = true) :
    (isCb mv || (moved mv).isSome) = true ∧ moved mv = some n ∧ notif mv = none := by
  cases mv <;> simp [isMove] at h
  · obtain ⟨h1, h2⟩ := h
    subst h1
    simp [isCb, moved, notif, h2]
  · subst h
    simp [isCb, moved, notif]

private theorem bodyOk_cons (mv : Ev) (n : Nat) (b : Bool) (rest : List Ev) :
    bodyOk (mv :: .cbNotify n :: .cbPoll b :: rest) =
      ((moved mv == some n) && (n ≤ 8192) && (if b then rest == [.cbEnd] else bodyOk rest)) := by
  cases mv <;> rfl

private theorem blocks_view {l : List Ev} (h : Blocks l) :
    bodyOk (cbView l ++ [.cbEnd]) = true ∧ (l.filterMap notif).sum = (l.filterMap moved).sum := by
  induction h with
  | nil => exact ⟨rfl, rfl⟩
  | skip e l he _ ih =>
    obtain ⟨h1, h2, h3⟩ := quiet_view he
    rw [cbView_neg l h1, List.filterMap_cons, List.filterMap_cons, h2, h3]
    exact ih
  | block mv n s b rest hmv hn hs hb _ ih =>
    obtain ⟨m1, m2, m3⟩ := move_view hmv
    obtain ⟨s1, s2, s3⟩ := cbView_quiet s hs
    constructor
    · rw [List.cons_append, cbView_pos _ m1, cbView_append, s1, List.nil_append, cbView_pos _ rfl, cbView_pos _ rfl,
        List.cons_append, List.cons_append, List.cons_append, bodyOk_cons, m2]
      cases b
      · simpa [hn] using ih.1
      · simp [hn, (cbView_quiet rest (hb rfl)).1]
    · simp only [List.cons_append, List.filterMap_append, List.filterMap_cons, m2, m3, s2, s3, List.nil_append]
      simp only [notif, moved, List.sum_cons]
      omega

private theorem shape_of_blocks {evs : List Ev}
    (h : evs = [.cbPoll true] ∨ ∃ l, Blocks l ∧ evs = .cbPoll false :: .cbBegin :: l ++ [.cbEnd]) :
    shapeOk (cbView evs) = true := by
  rcases h with rfl | ⟨l, hl, rfl⟩
  · rfl
  · rw [List.cons_append, List.cons_append, cbView_pos _ rfl, cbView_pos _ rfl, cbView_append]
    exact (blocks_view hl).1

/-- download with a callback: for every payload, every sequence of reads, every poll oracle - whenever the call
    returns, the callback events bracket and count the transfer as `shapeOk` prescribes -/
theorem recv_shape (w : World) (t : TType) (h : result (dataRecv true t) w = .ok ()) :
    shapeOk (cbView (added (dataRecv true t) w)) = true :=
  shape_of_blocks (dataRecv_cb t w h)

/-- upload with a callback -/
theorem send_shape (w : World) (t : TType) (h : result (dataSend true t) w = .ok ()) :
    shapeOk (cbView (added (dataSend true t) w)) = true := by
  obtain ⟨l0, h0, _, h2⟩ := dataSend_general true t w
  rw [added_of_trace _ _ _ h0]
  exact shape_of_blocks (h2 rfl h)

/-- the sum of the notify arguments is the number of bytes moved over the data connection -/
theorem notify_sum_is_bytes_moved (w : World) (t : TType) (h : result (dataRecv true t) w = .ok ()) :
    ((added (dataRecv true t) w).filterMap fun | .cbNotify n => some n | _ => none).sum =
    ((added (dataRecv true t) w).filterMap moved).sum := by
  change ((added (dataRecv true t) w).filterMap notif).sum = _
  rcases dataRecv_cb t w h with h1 | ⟨l, hl, h1⟩
  · rw [h1]; rfl
  · rw [h1]
    have := (blocks_view hl).2
    simp only [List.cons_append, List.filterMap_cons, List.filterMap_append, List.filterMap_nil, notif, moved,
      List.sum_append, List.sum_nil]
    omega

/-- cancelled before the start: no byte moves, neither begin nor end is invoked -/
theorem cancelled_before_start (w : World) (t : TType) (h : (w.cancelled || w.polls.head?.getD false) = true) :
    added (dataRecv true t) w = [Ev.cbPoll true] ∧ added (dataSend true t) w = [Ev.cbPoll true] := by
  constructor <;> apply added_of_trace
  · simp only [after, dataRecv_cb_eq]
    msimp [bind_eq, poll_run, h]
  · simp only [after, dataSend_cb_eq]
    msimp [bind_eq, poll_run, h]

/-- events of reading replies and of closing descriptors -/
private def isCloseEv : Ev → Bool
  | .dataClose _ => true
  | e => Walk.isQuietEv e

/-- a step that sends no command and shuts no descriptor down -/
private abbrev CloseStep := Walk.Own (fun _ : World => ()) (isCloseEv · = true)

private theorem closeStep_of_quiet {w w' : World} (h : Walk.QuietStep w w') : CloseStep w w' :=
  h.mono (fun _ _ _ => rfl) fun e he => by cases e <;> first | rfl | cases he

private theorem closeD_cl (d : Nat) : CtlL.Keeps CloseStep (closeD d) := by unfold closeD; own_walk []

private theorem dataDisconnect_cl : CtlL.Keeps CloseStep (dataDisconnect false) := by
  unfold dataDisconnect
  simp only [Bool.false_eq_true, if_false]
  own_walk [closeD_cl _]

/-- once cancellation has been reported, the end of the transfer sends ABOR, reads its replies into the result and
    closes the data connection without a graceful shutdown -/
theorem cancellation_aborts (w : World) (rs : Replies) (d : Nat) (a : Option Nat) (hcan : w.cancelled = true)
    (hc : w.conn = some { sock := some d, acc := a }) (hconn : w.connected = true) :
    (writes (added (finishTransfer true rs) w)).head? = some (str "ABOR\r\n") ∧
    Ev.dataShutdown d ∉ added (finishTransfer true rs) w ∧
    (∀ o, result (finishTransfer true rs) w = .ok o →
        Ev.dataClose d ∈ added (finishTransfer true rs) w ∧
        o.list = rs.list ++ received (added (finishTransfer true rs) w)) := by
  have hpoll : (w.cancelled || w.polls.head?.getD false) = true := by simp [hcan]
  have hrun := SessL.finishTransfer_abort rs w hpoll hconn
  -- what is added: the poll, the command, then events of reading replies and of closing descriptors
  obtain ⟨_, evs, ht, hev⟩ :=
    (CtlL.Keeps.bind (fun w => closeStep_of_quiet (SessL.abortReplies_quiet rs w)) fun rs' =>
      CtlL.Keeps.bind dataDisconnect_cl fun _ => CtlL.Keeps.pure rs') (SessL.sendW (str "ABOR") (CancelL.pollW w))
  rw [← hrun] at ht
  have hadd : added (finishTransfer true rs) w =
      (.cbPoll true :: w.observers.map (fun o => Ev.obsRequest o (str "ABOR"))) ++ .ctlWrite (str "ABOR" ++ CRLF) :: evs :=
    added_of_trace _ _ _ (by simp only [after, ht]; simp [SessL.sendW, CancelL.pollW, hpoll])
  have hobs : ∀ e ∈ w.observers.map (fun o => Ev.obsRequest o (str "ABOR")), ∃ o, e = Ev.obsRequest o (str "ABOR") :=
    fun e he => by obtain ⟨o, _, rfl⟩ := List.mem_map.mp he; exact ⟨o, rfl⟩
  refine ⟨?_, ?_, fun o ho => ?_⟩
  · have : writes (Ev.cbPoll true :: w.observers.map (fun o => Ev.obsRequest o (str "ABOR"))) = [] :=
      writes_eq_nil _ fun e he b => by
        rcases List.mem_cons.mp he with rfl | he
        · simp
        · obtain ⟨o, rfl⟩ := hobs e he; simp
    rw [hadd, writes_append, this]
    rfl
  · rw [hadd]
    intro hmem
    rcases List.mem_append.mp hmem with h | h
    · rcases List.mem_cons.mp h with h | h
      · cases h
      · obtain ⟨o, h⟩ := hobs _ h; cases h
    · rcases List.mem_cons.mp h with h | h
      · cases h
      · cases hev _ h
  · have hok := CtlL.run_of_result ho
    -- the replies returned are the replies received
    obtain ⟨as, st, hl, _⟩ := CtlL.finishTransfer_steps hok
    obtain ⟨evs', ht', _, hrec⟩ := st.ext
    refine ⟨?_, by rw [added_of_trace _ _ _ ht', hrec, hl]⟩
    -- the socket is closed
    rw [hrun] at hok
    simp only [CtlL.bind_ok, CtlL.pure_ok] at hok
    obtain ⟨rs2, w2, h2, _, w3, h3, -, h4⟩ := hok
    have k2 := (SessL.abortReplies_quiet rs).of_eq h2
    have hc2 : w2.conn = w.conn := congrArg Walk.DescPart.conn k2.ctl.desc
    obtain ⟨l, hl3⟩ := (SessL.dataDisconnect_sock false w2 d a (hc2.trans hc)).1
    obtain ⟨evs2, ht2, _⟩ := k2.2
    simp only [h3] at hl3
    rw [added_of_trace _ _ (.cbPoll true :: w.observers.map (fun o => Ev.obsRequest o (str "ABOR")) ++
      [.ctlWrite (str "ABOR" ++ CRLF)] ++ evs2 ++ .dataClose d :: l)
      (by rw [← h4]; simp only [hl3, ht2]; simp [SessL.sendW, CancelL.pollW, hpoll])]
    simp

/-- without cancellation no ABOR is sent -/
theorem no_abort_without_cancellation (w : World) (rs : Replies) (hcan : w.cancelled = false)
    (hp : w.polls.head?.getD false = false) :
    writes (added (finishTransfer true rs) w) = [] := by
  have hpoll : (w.cancelled || w.polls.head?.getD false) = false := by simp [hcan, hp]
  have k : CtlL.Keeps (Walk.Own (fun _ : World => ()) fun e => ∀ b, e ≠ .ctlWrite b)
      (dataDisconnect true >>= fun _ => recvInto rs >>= fun x => pure x.2) :=
    .bind (Walk.Own.keeps_mono (Walk.dataDisconnect_own true) (fun _ _ _ => rfl) fun e he b hb => by subst hb; cases he)
      fun _ => .bind (Walk.Own.keeps_mono (Walk.recvInto_own rs) (fun _ _ _ => rfl) fun e he b hb => by subst hb; cases he)
        fun _ => .pure _
  obtain ⟨_, evs, ht, hev⟩ := k (CancelL.pollW w)
  have hrun : finishTransfer true rs w = (dataDisconnect true >>= fun _ => recvInto rs >>= fun x => pure x.2)
      (CancelL.pollW w) := by
    unfold finishTransfer
    simp only [if_true]
    rw [CancelL.poll_bind', hpoll]
    rfl
  rw [added_of_trace _ _ (.cbPoll false :: evs) (by simp only [after, hrun, ht]; simp [CancelL.pollW, hpoll])]
  exact writes_eq_nil _ fun e he b => by
    rcases List.mem_cons.mp he with rfl | he
    · simp
    · exact hev e he b

example :
    let w : World := { mode := .passive, ttype := .binary, rfc := true, act := some (.send (str "hello world")),
                       dataReads := [some 5, some 6, some 0], polls := [false, false, true], conn := some { sock := some 1 } }
    cbView (added (dataRecv true .binary) w) =
      [.cbPoll false, .cbBegin, .dataRead 1 5, .cbNotify 5, .cbPoll false, .dataRead 1 6, .cbNotify 6, .cbPoll true, .cbEnd] := by decide +kernel

end Ftp.Props.C12
