import Ftp.Generated.SourceFacts
import Ftp.Props.C05
/-
  C05, tie to the source by translation: the default sizes of the converters' internal buffers in
  include/ftp/detail/ascii_istream.hpp / ascii_ostream.hpp now.  The theorems of C05.lean hold for every internal
  buffer size >= 1, so the only obligation is that the source's default is in that range.
-/
namespace Ftp.Props.C05

theorem internal_buffers_are_in_range : 1 ≤ Generated.asciiInBuf ∧ 1 ≤ Generated.asciiOutHint := by decide

end Ftp.Props.C05
