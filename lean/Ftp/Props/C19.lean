import Ftp.Lemmas.CmdParser
/-
  C19 - the command-line parser is total, case-insensitive and inverts its quoting.
  Model: `Ftp.Cmd` (get_command_from_string, parse_command over the stream-extraction contract).
-/
namespace Ftp.Props.C19
open Ftp.Cmd

/-- the comparison chain of the code recognises exactly the 27 documented (name, command) pairs -/
theorem table_documented :
    verbTable.length = 27 ∧ (∀ p ∈ verbTable, p ∈ Spec.verbs) ∧ (∀ p ∈ Spec.verbs, p ∈ verbTable) ∧
    (verbTable.map (·.1)).Nodup ∧ (verbTable.map (·.2)).Nodup := by
  decide +kernel

/-- a token is accepted as command `c` exactly when it equals the documented name of `c` up to ASCII letter case;
    nothing else is accepted -/
theorem verb_iff (tok : Bytes) (c : Command) :
    commandFromString tok = some c ↔ tok.map Spec.asciiLower = str c.name := by
  rw [commandFromString_eq]
  constructor
  · intro h
    split at h
    · rename_i p hf
      have hmem := List.mem_of_find?_eq_some hf
      have hp := List.find?_some hf
      simp only [beq_iff_eq] at hp
      simp only [Option.some.injEq] at h
      rw [hp, ← h, (verbTable_row p hmem).2.2.1]
    · cases h
  · intro h
    rw [h]
    exact (verbTable_row _ (name_mem c)).2.2.2

/-- totality: every line gives a command with arguments or the application's own "invalid command" -/
theorem total (line : Bytes) :
    parseCommand line = .invalid ∨ ∃ c args, parseCommand line = .ok c args := by
  cases h : parseCommand line with
  | invalid => exact Or.inl rfl
  | ok c args => exact Or.inr ⟨c, args, rfl⟩

/-- arguments written with the supported quoting, each preceded by a non-empty run of white space -/
def renderArgs : List Bytes → List Bytes → Bytes
  | a :: as, s :: ss => s ++ Spec.quote a ++ renderArgs as ss
  | _, _ => []

private theorem renderArgs_length (args seps : List Bytes) (hl : seps.length = args.length) :
    args.length ≤ (renderArgs args seps).length := by
  induction args generalizing seps with
  | nil => simp
  | cons a as ih =>
    cases seps with
    | nil => simp at hl
    | cons s ss =>
      have := ih ss (by simpa using hl)
      simp only [renderArgs, Spec.quote, List.length_append, List.length_cons, List.length_nil]
      omega

private theorem startsSpace_render (args seps : List Bytes)
    (hs : ∀ s ∈ seps, s ≠ [] ∧ ∀ b ∈ s, isSpace b = true)
    (trail : Bytes) (htrail : ∀ b ∈ trail, isSpace b = true) :
    startsSpace (renderArgs args seps ++ trail) := by
  cases args with
  | nil => simpa [renderArgs] using startsSpace_of_all trail htrail
  | cons a as =>
    cases seps with
    | nil => simpa [renderArgs] using startsSpace_of_all trail htrail
    | cons s ss =>
      have h1 := hs s (by simp)
      obtain ⟨s0, st, rfl⟩ := List.exists_cons_of_ne_nil h1.1
      intro x hx
      simp only [renderArgs, List.cons_append, List.head?_cons, Option.mem_def, Option.some.injEq] at hx
      subst hx
      exact h1.2 s0 (by simp)

private theorem argsLoop_render (args seps : List Bytes) (hl : seps.length = args.length)
    (hs : ∀ s ∈ seps, s ≠ [] ∧ ∀ b ∈ s, isSpace b = true)
    (trail : Bytes) (htrail : ∀ b ∈ trail, isSpace b = true) (fuel : Nat) (hf : args.length < fuel) :
    argsLoop fuel (renderArgs args seps ++ trail) = args := by
  induction args generalizing seps fuel with
  | nil =>
    cases fuel with
    | zero => omega
    | succ f => simp [renderArgs, argsLoop, extractQuoted_all_space trail htrail]
  | cons a as ih =>
    cases seps with
    | nil => simp at hl
    | cons s ss =>
      cases fuel with
      | zero => omega
      | succ f =>
        have h1 := hs s (by simp)
        have e : renderArgs (a :: as) (s :: ss) ++ trail = s ++ Spec.quote a ++ (renderArgs as ss ++ trail) := by
          simp [renderArgs]
        rw [e]
        simp only [argsLoop, extractQuoted_quote s a _ h1.2]
        rw [ih ss (by simpa using hl) (fun x hx => hs x (by simp [hx])) f (by simp at hf; omega)]

/-- round trip: any verb in any letter case, followed by any list of arbitrary byte strings written with double quotes
    and backslash escapes and separated by white space, is recovered exactly (leading / trailing white space allowed) -/
theorem roundtrip (c : Command) (verb : Bytes) (hv : verb.map Spec.asciiLower = str c.name)
    (args seps : List Bytes) (hl : seps.length = args.length)
    (hs : ∀ s ∈ seps, s ≠ [] ∧ ∀ b ∈ s, isSpace b = true)
    (lead trail : Bytes) (hlead : ∀ b ∈ lead, isSpace b = true) (htrail : ∀ b ∈ trail, isSpace b = true) :
    parseCommand (lead ++ verb ++ renderArgs args seps ++ trail) = .ok c args := by
  have hvl : ∀ b ∈ verb, isSpace b = false := by
    intro b hb
    apply isSpace_false_of_lower
    apply (verbTable_row _ (name_mem c)).1
    rw [← hv]
    exact List.mem_map_of_mem hb
  have hne : verb ≠ [] := by
    intro h
    subst h
    exact (verbTable_row _ (name_mem c)).2.1 hv.symm
  obtain ⟨v0, vt, rfl⟩ := List.exists_cons_of_ne_nil hne
  have hcmd := (verb_iff _ c).2 hv
  have e : lead ++ (v0 :: vt) ++ renderArgs args seps ++ trail =
      lead ++ ((v0 :: vt) ++ (renderArgs args seps ++ trail)) := by simp
  have hlen := renderArgs_length args seps hl
  unfold parseCommand
  rw [e, skipWs_append_space _ _ hlead, List.cons_append, skipWs_cons_nonspace _ _ (hvl v0 (by simp)),
    ← List.cons_append, takeWord_append _ _ hvl (startsSpace_render args seps hs trail htrail)]
  simp only [hcmd]
  congr 1
  apply argsLoop_render args seps hl hs trail htrail
  simp only [List.length_append]
  omega

/-- non-vacuity -/
example : parseCommand (str "  GeT \"a \\\"b\\\\\" \t\"\" c") = .ok .get [str "a \"b\\", [], str "c"] ∧
    parseCommand (str "gett x") = .invalid ∧ parseCommand (str "get \"unterminated") = .ok .get [] ∧
    parseCommand [] = .invalid := by decide +kernel

end Ftp.Props.C19
