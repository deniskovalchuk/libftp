import Ftp.Props.C17
import Ftp.Lemmas.ClientOps
/-
  C07 - a refused transfer moves no data, leaks nothing and leaves the session usable.
-/
namespace Ftp.Props.C07
open Ftp.Client Ftp.Session Ftp.Props.C01 Ftp.Client.SessL Ftp.Client.OpsL Ftp.Client.Walk

def isTransferOp : Op → Bool
  | .download _ _ | .upload _ _ _ | .list _ _ => true
  | _ => false

def refusal (r : WfReply) : Prop := 400 ≤ r.code ∧ r.code ≠ 421

/-- the outcome of a refused transfer -/
structure Refused (op : Op) (w : World) (replies : List WfReply) : Prop where
  returned : ∃ o, result op.run w = .ok o ∧ o.replyList = replies.map replyOf ∧
    (match o with | .replies rs => rs.isPositive = false | .listing rs t => rs.isPositive = false ∧ t = [] | _ => False)
  no_data : ∀ e ∈ added op.run w, isData e = false ∧ e ≠ Ev.cbBegin
  nothing_after_refusal : (writes (added op.run w)).length = replies.length
  no_descriptor : (after op.run w).conn = none ∧ (opened (added op.run w)).Perm (closed (added op.run w))
  in_step : InStep (after op.run w) []

private def cmdOf : Op → Bytes
  | .download p _ => str "RETR" ++ [SP] ++ p
  | .upload v p _ => str v ++ [SP] ++ p
  | .list (some p) n => str (if n then "NLST" else "LIST") ++ [SP] ++ p
  | .list none n => str (if n then "NLST" else "LIST")
  | _ => []

private def outOf : Op → Replies → Out
  | .list _ _, rs => .listing rs []
  | _, rs => .replies rs

/-- a transfer whose set-up reports "not ready" returns the replies collected so far -/
private theorem run_refused (op : Op) (w w1 : World) (rs1 : Replies) (hop : isTransferOp op = true)
    (hargs : ∀ a ∈ (match op with | .download p _ => [p] | .upload _ p _ => [p] | .list (some p) _ => [p] | _ => []), Endpoint.hasCrLf a = false)
    (h : createDataConnection (cmdOf op) Replies.empty w = (.ok (false, rs1), w1)) :
    op.run w = (.ok (outOf op rs1), destroyW w1) := by
  cases op with
  | download p cb =>
    simp only [Op.run, download_eq]
    rw [DataL.bind_ok (xfer_notready _ _ _ _ w w1 _ rs1 (CtlL.mkCmd_succ _ _ _ (hargs p (by simp))) h)]
    rfl
  | upload v p cb =>
    simp only [Op.run, upload_eq]
    rw [DataL.bind_ok (xfer_notready _ _ _ _ w w1 _ rs1 (CtlL.mkCmd_succ _ _ _ (hargs p (by simp))) h)]
    rfl
  | list p n =>
    simp only [Op.run, fileList_eq]
    rcases p with _ | p
    · rw [DataL.bind_ok (xfer_notready _ _ _ _ w w1 _ rs1 rfl h)]
      rfl
    · rw [DataL.bind_ok (xfer_notready _ _ _ _ w w1 _ rs1 (CtlL.mkCmd_succ _ _ _ (hargs p (by simp))) h)]
      rfl
  | _ => simp [isTransferOp] at hop

private theorem refused_of (op : Op) (w w1 : World) (rs1 : Replies) (replies : List WfReply)
    (hop : isTransferOp op = true) (hconn0 : w.conn = none)
    (hargs : ∀ a ∈ (match op with | .download p _ => [p] | .upload _ p _ => [p] | .list (some p) _ => [p] | _ => []), Endpoint.hasCrLf a = false)
    (h : createDataConnection (cmdOf op) Replies.empty w = (.ok (false, rs1), w1))
    (hl : rs1.list = replies.map replyOf) (hpos : rs1.isPositive = false) (hsync : Sync w1 [])
    (hc : w1.connected = true) : Refused op w replies := by
  have hrun := run_refused op w w1 rs1 hop hargs h
  obtain ⟨_, evs1, ht1, hp1⟩ := (createDataConnection_own _ _).of_eq h
  have hds : DescStep w1 (destroyW w1) := destroyConn_own.of_eq (destroyConn_eq w1)
  have hdat := Rdat.of_desc hds
  obtain ⟨_, evs2, ht2, hp2⟩ := hds
  have htr : (after op.run w).trace = w.trace ++ (evs1 ++ evs2) := by
    simp only [after, hrun, ht2, ht1, List.append_assoc]
  have hadd := DataL.added_of_trace _ _ _ htr
  refine ⟨⟨outOf op rs1, by simp [result, hrun], ?_, ?_⟩, ?_, ?_, ?_, ?_⟩
  · cases op <;> simp [isTransferOp] at hop <;> simpa [outOf, Out.replyList] using hl
  · cases op <;> simp [isTransferOp] at hop <;> simp [outOf, hpos]
  · rw [hadd]
    intro e he
    have : isData e = false := by
      rcases List.mem_append.mp he with he | he
      · rcases hp1 e he with h | h <;> cases e <;> first | rfl | cases h
      · have h := hp2 e he
        cases e <;> first | rfl | cases h
    refine ⟨this, ?_⟩
    rintro rfl
    simp [isData] at this
  · rw [hadd]
    obtain ⟨setup, as, _, st, hrl, sh⟩ := CtlL.createDataConnection_steps h
    obtain ⟨evs, hte, hw, _⟩ := st.ext
    have : evs = evs1 := List.append_cancel_left (hte.symm.trans ht1)
    subst this
    have hw2 : writes evs2 = [] := by
      apply writes_eq_nil
      intro e he b hb
      subst hb
      cases hp2 _ he
    rw [writes_append, hw, hw2, List.append_nil]
    simp only [Replies.empty, List.nil_append] at hrl
    have hlen : (CtlL.recvs as).length = replies.length := by rw [← hrl, hl, List.length_map]
    rcases sh with ⟨r1, rfl, _⟩ | ⟨r1, r2, rfl, _⟩ <;> simpa [CtlL.sends, CtlL.recvs] using hlen
  · have := C17.balanced op w hconn0
    exact ⟨this.1, this.2.1⟩
  · simp only [after, hrun]
    exact ⟨hdat.connected.trans hc, sync_of_dat hdat hsync⟩

private theorem pos_false1 (s : WfReply) (hs : s.wf) (h : 400 ≤ s.code) :
    (Replies.empty.append (replyOf s)).isPositive = false := by
  simp only [Replies.append, Replies.empty, List.isEmpty_nil, if_true, isPositive_replyOf hs]
  simp; omega

private theorem pos_false2 (s m : WfReply) (hm : m.wf) (h : 400 ≤ m.code) :
    ((Replies.empty.append (replyOf s)).append (replyOf m)).isPositive = false := by
  have hp : (replyOf m).isPositive = false := by rw [isPositive_replyOf hm]; simp; omega
  simp [Replies.append, Replies.empty, hp]

/-- the set-up command (EPSV / PASV / EPRT / PORT) is refused: the operation stops there, in every mode -/
theorem refused_at_setup (op : Op) (w : World) (s : WfReply) (rest : List SGroup) (hop : isTransferOp op = true)
    (hstep : InStep w []) (hconn0 : w.conn = none) (hs : s.wf) (href : refusal s)
    (hsc : w.script = (⟨[s], none⟩ :: rest).map SGroup.enc)
    (hargs : ∀ a ∈ (match op with | .download p _ => [p] | .upload _ p _ => [p] | .list (some p) _ => [p] | _ => []), Endpoint.hasCrLf a = false)
    (hv6 : w.mode = .active → w.rfc = false → w.v6 = false) :
    Refused op w [s] := by
  obtain ⟨w1, h1, h2, h3⟩ := cdc_refused_setup (cmdOf op) Replies.empty w s none rest hstep hs href.1 hsc hv6
  exact refused_of op w w1 _ [s] hop hconn0 hargs h1 (by simp [Replies.empty]) (pos_false1 s hs href.1) h2 (h3 href.2)

-- the proof does not use `hactive`
set_option linter.unusedVariables false in
/-- the transfer command itself (RETR / STOR / STOU / APPE / LIST / NLST) is refused after an accepted set-up -/
theorem refused_at_main (op : Op) (w : World) (s m : WfReply) (act : Option DataAct) (rest : List SGroup)
    (hop : isTransferOp op = true)
    (hstep : InStep w []) (hconn0 : w.conn = none) (hs : s.wf) (hm : m.wf) (hacc : s.code < 400) (href : refusal m)
    (hsc : w.script = (⟨[s], none⟩ :: ⟨[m], act⟩ :: rest).map SGroup.enc)
    (hargs : ∀ a ∈ (match op with | .download p _ => [p] | .upload _ p _ => [p] | .list (some p) _ => [p] | _ => []), Endpoint.hasCrLf a = false)
    (hv6 : w.mode = .active → w.rfc = false → w.v6 = false)
    (hpassive : w.mode = .passive →
        (w.connectOks.head? = some true) ∧ (w.closeFails.head?.getD false = false) ∧
        (if w.rfc then (Endpoint.parseEpsv s.text).isSome else (Endpoint.parsePasv s.text).isSome))
    (hactive : w.mode = .active → w.closeFails.head?.getD false = false) :
    Refused op w [s, m] := by
  obtain ⟨w1, h1, h2, h3⟩ :=
    cdc_refused_main (cmdOf op) Replies.empty w s m act rest hstep hs hm hacc href.1 hsc hv6 hpassive
  exact refused_of op w w1 _ [s, m] hop hconn0 hargs h1 (by simp [Replies.empty]) (pos_false2 s m hm href.1) h2 (h3 href.2)

end Ftp.Props.C07
