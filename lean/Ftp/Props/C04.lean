import Ftp.Lemmas.ClientData
/-
  C04 - binary upload transmits exactly the source bytes, then signals end-of-file, then waits for the completion reply.
  Model: `Ftp.Client.dataSend` (data_connection::send), `Ftp.Client.finishTransfer`, `dataDisconnect`.
-/
namespace Ftp.Props.C04
open Ftp.Client Ftp.Session Ftp.Client.DataL Ftp.Ascii

/-- binary upload: for every payload and every pattern of short reads of the source, the bytes written to the data
    connection are exactly the source bytes up to its first empty read -/
theorem binary_transmits_exactly (w : World) (hok : ∀ b ∈ w.blockOks, b = true) (hsrc : w.srcFailAt = none) :
    result (dataSend false .binary) w = .ok () ∧
    (after (dataSend false .binary) w).peerGot = w.peerGot ++ w.src.data ∧
    (after (dataSend false .binary) w).src.data = [] := by
  obtain ⟨w', h1, h2, h3⟩ := sendLoopBin_exact (dOf w) (2 * w.src.data.length + 2) w hok hsrc (by omega)
  have hd : dataSend false .binary w = (.ok (), w') := (dataSend_nocb_eq .binary w).trans h1
  simp only [result, after, hd]
  exact ⟨trivial, h2, h3⟩

/-- ... independent of how the source chops its reads -/
theorem binary_chop_independent (w : World) (s1 s2 : List Nat) (hok : ∀ b ∈ w.blockOks, b = true) (hsrc : w.srcFailAt = none) :
    (after (dataSend false .binary) { w with src := ⟨w.src.data, s1⟩ }).peerGot =
    (after (dataSend false .binary) { w with src := ⟨w.src.data, s2⟩ }).peerGot := by
  rw [(binary_transmits_exactly { w with src := ⟨w.src.data, s1⟩ } hok hsrc).2.1,
    (binary_transmits_exactly { w with src := ⟨w.src.data, s2⟩ } hok hsrc).2.1]

/-- every block handed to the data socket holds at most 8192 bytes -/
theorem blocks_at_most_8192 (w : World) (t : TType) (cb : Bool) :
    ∀ e ∈ added (dataSend cb t) w, ∀ d n, e = Ev.dataWrite d n → n ≤ 8192 := by
  obtain ⟨l, h1, h2, _⟩ := dataSend_general cb t w
  rw [added_of_trace _ _ _ h1]
  exact h2

/-- ASCII upload end to end: the bytes written are the source with CR LF | CR | LF -> CR LF (C05) -/
theorem ascii_transmits_converted (w : World) (hok : ∀ b ∈ w.blockOks, b = true) (hsrc : w.srcFailAt = none) :
    result (dataSend false .ascii) w = .ok () ∧
    (after (dataSend false .ascii) w).peerGot = w.peerGot ++ Spec.ulSpec w.src.data := by
  have hrem : remain (IState.init 8192) w.src = Spec.ulSpec w.src.data := by
    simp [remain, IState.init, Spec.ulSpec]
  obtain ⟨w', h1, h2⟩ := sendLoopAscii_exact (dOf w) (2 * w.src.data.length + 2) (IState.init 8192) w hok hsrc
    (by simp [IState.init]) (by
      rw [hrem]
      have := ulGo_length_le false w.src.data
      simp only [Spec.ulSpec]; omega)
  have hd : dataSend false .ascii w = (.ok (), w') := (dataSend_nocb_eq .ascii w).trans h1
  simp only [result, after, hd]
  exact ⟨trivial, by rw [h2, hrem]⟩

/-- after the last byte the data connection is closed (shutdown, then close: the server sees end-of-file) and only
    afterwards the completion reply is awaited: the events of the end of an uncancelled transfer start with the
    shutdown and close of the data socket, and the first control read comes after them -/
theorem close_before_completion (w : World) (rs : Replies) (d : Nat) (a : Option Nat)
    (hc : w.conn = some { sock := some d, acc := a }) (hcl : ∀ b ∈ w.closeFails, b = false) :
    ∃ rest, added (finishTransfer false rs) w =
      [Ev.dataShutdown d, Ev.dataClose d] ++ (match a with | some l => [Ev.dataClose l] | none => []) ++ Ev.ctlReadLine :: rest := by
  obtain ⟨l2, g1, _⟩ := SessL.recvInto_readLine rs (SessL.dropW true d a w)
  refine ⟨l2, added_of_trace _ _ _ ?_⟩
  unfold after finishTransfer
  msimp [bind_ok (SessL.dataDisconnect_ok true w d a hc hcl)]
  rw [bind_eq]
  rcases hr : recvInto rs (SessL.dropW true d a w) with ⟨_ | _, w2⟩ <;> rw [hr] at g1 <;> simp only at g1 <;>
    (cases a <;> simp [g1, SessL.dropW])

private theorem ulGo_false_ne_nil (data : Bytes) (h : data ≠ []) : Spec.ulGo false data ≠ [] := by
  cases data with
  | nil => exact absurd rfl h
  | cons c t =>
    simp only [Spec.ulGo]
    split
    · simp
    · split <;> simp

/-- a failed write is reported: the call throws -/
theorem write_error_is_reported (w : World) (t : TType) (hne : w.src.data ≠ []) (hb : w.blockOks.head? = some false)
    (hsrc : w.srcFailAt = none) : result (dataSend false t) w = .throw := by
  have hhd : w.blockOks.head?.getD true = false := by rw [hb]; rfl
  cases t with
  | binary =>
    have hne' : ¬ (w.srcFailAt = some w.srcReads) := by rw [hsrc]; simp
    have hbe : (w.src.read 8192).1.isEmpty = false := Bool.eq_false_iff.mpr fun he =>
      hne ((Src.read_spec w.src 8192 (by omega)).2 (List.isEmpty_iff.mp he))
    simp only [result, dataSend_nocb_eq]
    rw [sendLoop, sendLoopBin, bind_eq, srcRead_run, if_neg hne']
    msimp [hbe, bind_eq, dataWrite_run, hhd]
  | ascii =>
    have h2 := (read_spec (IState.init 8192) w.src 8192 (by omega) (by simp [IState.init])).2.1
    have hbe : (Ascii.read (IState.init 8192) w.src 8192).1.isEmpty = false := Bool.eq_false_iff.mpr fun he =>
      ulGo_false_ne_nil _ hne (by simpa [remain, IState.init] using h2 (List.isEmpty_iff.mp he))
    simp only [result, dataSend_nocb_eq]
    rw [sendLoop, sendLoopAscii_succ, asciiFails_none _ _ hsrc]
    msimp [hbe, bind_eq, dataWrite_run, hhd]

example :
    let w : World := { mode := .passive, ttype := .binary, rfc := true, src := ⟨str "hello world", [2, 3, 1]⟩,
                       conn := some { sock := some 1 } }
    (after (dataSend false .binary) w).peerGot = str "hello world" := by decide +kernel

end Ftp.Props.C04
