import Ftp.Props.C11
/-
  C13 / C11 / C17 on the TLS layer: a `connect` that cannot establish its TCP connection (`connectFailT`).
  Whatever state the client was in - connected or not, with an SSL layer whose handshake completed, failed or was never
  started - the call reports the error, the client is not connected afterwards, the connection that was open (if any) has
  been closed, the SSL layer is gone, and not a single command was written (in particular none in clear text on the
  connection that was open: the case of repair F13).
-/
namespace Ftp.Props.C13
open Ftp.Client Ftp.ClientTls Ftp.ClientTls.L
open Ftp.Props.C11 (afterT resultT addedT)

/-- the argument checks of `connect`: both texts are validated before anything else happens -/
def credsOk (cred : Option (Bytes × Bytes)) : Bool :=
  match cred with
  | some (u, p) => !Endpoint.hasCrLf u && !Endpoint.hasCrLf p
  | none => true

/-- a failed connect always reports the error -/
theorem failed_connect_throws (cred : Option (Bytes × Bytes)) (w : WorldT) : resultT (connectFailT cred) w = .throw := by
  unfold resultT connectFailT
  cases cred with
  | none =>
    simp only [bindT_eq, getT, emitT]
    cases w.base.connected <;> rfl
  | some c =>
    obtain ⟨u, p⟩ := c
    simp only [bindT_eq, lift_mkCmd, Endpoint.makeCommand, getT, emitT]
    cases Endpoint.hasCrLf u <;> cases Endpoint.hasCrLf p <;> simp <;> cases w.base.connected <;> rfl

/-- ... with rejected arguments nothing at all has happened ... -/
theorem failed_connect_rejected_arguments (cred : Option (Bytes × Bytes)) (w : WorldT) (h : credsOk cred = false) :
    afterT (connectFailT cred) w = w := by
  unfold afterT connectFailT
  cases cred with
  | none => simp [credsOk] at h
  | some c =>
    obtain ⟨u, p⟩ := c
    simp only [credsOk, Bool.and_eq_false_iff, Bool.not_eq_false'] at h
    simp only [bindT_eq, lift_mkCmd, Endpoint.makeCommand, getT, emitT]
    cases hu : Endpoint.hasCrLf u with
    | true => simp
    | false =>
      rcases h with h | h
      · rw [hu] at h; cases h
      · simp [h]

/-- ... and otherwise the client is released: not connected, no SSL layer, the connection that was open closed
    (abandoned - no QUIT, no shutdown), and nothing else happened -/
theorem failed_connect_releases (cred : Option (Bytes × Bytes)) (w : WorldT) (h : credsOk cred = true) :
    (afterT (connectFailT cred) w).base.connected = false ∧
    (afterT (connectFailT cred) w).ctlSsl = false ∧ (afterT (connectFailT cred) w).ctlTls = false ∧
    addedT (connectFailT cred) w = (if w.base.connected then [EvT.ev w.ctlTls .ctlClose] else []) := by
  unfold afterT addedT afterT connectFailT
  cases cred with
  | none =>
    simp only [bindT_eq, getT, emitT]
    cases hc : w.base.connected <;> simp [hc, bindT_eq, modifyT, throwT]
  | some c =>
    obtain ⟨u, p⟩ := c
    simp only [credsOk, Bool.and_eq_true, Bool.not_eq_true'] at h
    simp only [bindT_eq, lift_mkCmd, Endpoint.makeCommand, h.1, h.2, getT, emitT]
    cases hc : w.base.connected <;> simp [hc, bindT_eq, modifyT, throwT]

/-- no command leaves the client during a failed connect - neither on the connection that was open nor anywhere else -/
theorem failed_connect_writes_nothing (cred : Option (Bytes × Bytes)) (w : WorldT) :
    C11.allWrites (addedT (connectFailT cred) w) = [] := by
  cases h : credsOk cred with
  | false =>
    have := failed_connect_rejected_arguments cred w h
    unfold addedT; rw [this]; simp [C11.allWrites]
  | true =>
    rw [(failed_connect_releases cred w h).2.2.2]
    cases w.base.connected <;> simp [C11.allWrites]

/-- the body of `connect` when the TCP connection does not come about: the SSL layer of the abandoned connection is
    removed, then the error -/
def connectFailBody : MT Replies := do
  modifyT fun w => { w with ctlTls := false, ctlSsl := false }
  throwT

/-- a failed connect is `connectT` with the error in the place of everything from the opening of the connection on:
    the two share the argument checks and the abandoning of the open connection (`connectT_eq` states the same
    decomposition for `connectT`, with `connectBody host port cred` in the place of `connectFailBody`; `connectBody`
    begins with the same removal of the SSL layer) -/
theorem failed_connect_is_connect_up_to_the_connection (cred : Option (Bytes × Bytes)) :
    connectFailT cred =
      match cred with
      | some (u, p) => lift (mkCmd "USER" (some u)) >>= fun _ => lift (mkCmd "PASS" (some p)) >>= fun _ =>
          connectDropT >>= fun _ => connectFailBody
      | none => connectDropT >>= fun _ => connectFailBody := by
  have drop := getT_ite_jp (fun w => w.base.connected) (fun w0 => emitT (.ev w0.ctlTls .ctlClose))
    (modifyT fun w => { w with base := { w.base with connected := false } }) connectFailBody
  cases cred with
  | none => exact drop
  | some c =>
    obtain ⟨u, p⟩ := c
    show (lift (mkCmd "USER" (some u)) >>= fun _ => lift (mkCmd "PASS" (some p)) >>= fun _ => _) = _
    congr 1; funext _; congr 1; funext _
    exact drop

/-- non-vacuity: a protected session, then a connect that fails: the open connection is closed, the layer is gone -/
example :
    let w : WorldT := { base := { mode := .passive, ttype := .binary, rfc := true, connected := true }, tlsCtx := true,
                        ctlSsl := true, ctlTls := true }
    addedT (connectFailT none) w = [EvT.ev true .ctlClose] ∧ (afterT (connectFailT none) w).ctlSsl = false := by
  decide

end Ftp.Props.C13
