import Ftp.Lemmas.ClientTlsXfer
/-
  C04 on a TLS-protected session: "It then closes the data connection (after a TLS close-notify when TLS is on) so that the
  server sees end-of-file, and only afterwards waits for the completion reply."  Model: `Ftp.ClientTls.uploadT`.
-/
namespace Ftp.Props.C04
open Ftp.Client Ftp.ClientTls Ftp.Props.C11

/-- is the event a read on the control channel? -/
def isCtlRead : EvT → Bool
  | .ev _ .ctlReadLine => true
  | _ => false

/-- is the event a write of payload to the data connection? -/
def isDataWrite : EvT → Bool
  | .ev _ (.dataWrite _ _) => true
  | _ => false

/-- an upload on a session whose data connections are protected, for every call that returns: the trace of the call is
    `pre ++ [TLS close-notify on d, TCP shutdown of d, close of d] ++ post` where every payload write is in `pre`, and the
    read of the completion reply is in `post` (there is one) - the close-notify comes after the last payload byte and the
    completion reply is awaited only after the data connection has been closed -/
theorem tls_upload_close_notify_close_then_completion (verb : String) (path : Bytes) (w : WorldT) (rs : Replies)
    (hret : resultT (uploadT verb path) w = .ok rs)
    (hhs : ∃ d off, EvT.dataTlsHandshake d off true ∈ addedT (uploadT verb path) w) :
    ∃ pre post d t1 t2,
      addedT (uploadT verb path) w =
        pre ++ [EvT.dataTlsShutdown d, EvT.ev t1 (.dataShutdown d), EvT.ev t2 (.dataClose d)] ++ post ∧
      (∀ e ∈ post, isDataWrite e = false) ∧
      (∃ e ∈ post, isCtlRead e = true) ∧
      (∀ e ∈ pre, e ≠ EvT.dataTlsShutdown d) := by
  obtain ⟨pre, post, d, t, heq, hpre, hpost, tr, hr⟩ := (X.uploadT_close_shape verb path w).added rs hret hhs
  refine ⟨pre, post, d, t, t, heq, ?_, ⟨_, hr, rfl⟩, fun e he => hpre e he d⟩
  intro e he
  obtain ⟨t', e0, rfl, h0⟩ := hpost e he
  cases e0 <;> first | rfl | exact absurd rfl (h0 _ _)

/-! ### non-vacuity: the hypotheses are satisfiable -/

/-- a protected session (`AUTH TLS` done, handshake completed), an EPSV upload of "hello" read from the source in two
    segments; the data handshake succeeds -/
def worldUlT : WorldT :=
  { base := { mode := .passive, ttype := .binary, rfc := true, connected := true, connectOks := [true],
              script := [{ raws := [str "229 ok (|||5000|)\r\n"] },
                         { raws := [str "150 go\r\n", str "226 done\r\n"], act := some .recv }],
              src := ⟨str "hello", [3, 2]⟩ },
    tlsCtx := true, ctlSsl := true, ctlTls := true, hsOks := [true] }

/-- ... the same in active mode (EPRT): the close of the listening descriptor follows the close of the data descriptor
    (it is part of `post`) -/
def worldUlActT : WorldT :=
  { base := { mode := .active, ttype := .binary, rfc := true, connected := true, listenPorts := [4000],
              script := [{ raws := [str "200 ok\r\n"] },
                         { raws := [str "150 go\r\n", str "226 done\r\n"], act := some .recv }],
              src := ⟨str "hello", [3, 2]⟩ },
    tlsCtx := true, ctlSsl := true, ctlTls := true, hsOks := [true] }

private def returned {α} : Res α → Bool
  | .ok _ => true
  | .throw => false

/-- both hypotheses of the theorem hold in `worldUlT` -/
example :
    returned (resultT (uploadT "STOR" (str "f")) worldUlT) = true ∧
    EvT.dataTlsHandshake 1 false true ∈ addedT (uploadT "STOR" (str "f")) worldUlT := by
  decide +kernel

/-- the theorem instantiated in `worldUlT` -/
example : ∃ pre post d t1 t2,
    addedT (uploadT "STOR" (str "f")) worldUlT =
      pre ++ [EvT.dataTlsShutdown d, EvT.ev t1 (.dataShutdown d), EvT.ev t2 (.dataClose d)] ++ post ∧
    (∀ e ∈ post, isDataWrite e = false) ∧ (∃ e ∈ post, isCtlRead e = true) ∧
    (∀ e ∈ pre, e ≠ EvT.dataTlsShutdown d) := by
  have hok : returned (resultT (uploadT "STOR" (str "f")) worldUlT) = true := by decide +kernel
  cases hr : resultT (uploadT "STOR" (str "f")) worldUlT with
  | throw => rw [hr] at hok; cases hok
  | ok rs =>
    exact tls_upload_close_notify_close_then_completion "STOR" (str "f") worldUlT rs hr ⟨1, false, by decide +kernel⟩

/-- what the call appends in `worldUlT`: the two payload writes, then close-notify, shutdown, close of descriptor 1,
    then the read of the completion reply -/
example : addedT (uploadT "STOR" (str "f")) worldUlT =
    [.ev true (.ctlWrite (str "EPSV\r\n")), .ev true .ctlReadLine, .ev true (.ctlReply 229 (str "229 ok (|||5000|)")),
     .ev true (.dataSocket 1), .ev true (.dataConnect 1 (str "127.0.0.1") 5000 true),
     .ev true (.ctlWrite (str "STOR f\r\n")), .ev true .ctlReadLine, .ev true (.ctlReply 150 (str "150 go")),
     .dataTlsHandshake 1 false true,
     .ev true (.srcRead 8192 3), .ev true (.dataWrite 1 3), .ev true (.srcRead 8192 2), .ev true (.dataWrite 1 2),
     .ev true (.srcRead 8192 0),
     .dataTlsShutdown 1, .ev true (.dataShutdown 1), .ev true (.dataClose 1),
     .ev true .ctlReadLine, .ev true (.ctlReply 226 (str "226 done"))] := by
  decide +kernel

/-- active mode: the data descriptor is 2 (accepted on the listening descriptor 1); the hypotheses hold, and the end of
    the trace is close-notify on 2, shutdown of 2, close of 2, close of 1, read of the completion reply -/
example :
    returned (resultT (uploadT "STOR" (str "f")) worldUlActT) = true ∧
    EvT.dataTlsHandshake 2 false true ∈ addedT (uploadT "STOR" (str "f")) worldUlActT ∧
    (addedT (uploadT "STOR" (str "f")) worldUlActT).drop 16 =
      [.dataTlsShutdown 2, .ev true (.dataShutdown 2), .ev true (.dataClose 2), .ev true (.dataClose 1),
       .ev true .ctlReadLine, .ev true (.ctlReply 226 (str "226 done"))] := by
  decide +kernel

end Ftp.Props.C04
