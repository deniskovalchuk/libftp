import Ftp.Props.C11
/-
  C18 - data connections reuse the control TLS session and context when asked to.
  Model: `Ftp.ClientTls.dataHandshake` (client::ssl_handshake_data_connection).
-/
namespace Ftp.Props.C18
open Ftp.ClientTls Ftp.Props.C11

private theorem isHs_eq :
    (fun e : EvT => match e with | .dataTlsHandshake _ _ _ => true | _ => false) = L.isHs := by
  funext e
  cases e <;> rfl

/-- every data-connection handshake of every call offers the control connection's session exactly when the context was
    created with session resumption (and the handshake is performed with the client's own context - the model has
    only one) -/
theorem offers_control_session_iff_resumption (op : SessionOp) (w : WorldT) :
    ∀ d offered ok, EvT.dataTlsHandshake d offered ok ∈ addedT op.run w → offered = w.resume := by
  intro d offered ok hm
  exact (L.tag_offer (op_tag_added op w).2 hm).1

/-- without a TLS context no handshake is attempted; with one, a transfer never moves payload without it (C11) and
    performs at most one handshake per call -/
theorem at_most_one_handshake_per_call (op : SessionOp) (w : WorldT) :
    ((addedT op.run w).filter fun e => match e with | .dataTlsHandshake _ _ _ => true | _ => false).length ≤ 1 ∧
    (w.tlsCtx = false → ∀ d o k, EvT.dataTlsHandshake d o k ∉ addedT op.run w) := by
  refine ⟨?_, ?_⟩
  · rw [isHs_eq]; exact L.shape_count (op_shape_added op w)
  · intro hctx d o k hm
    have := (L.tag_offer (op_tag_added op w).2 hm).2
    have h2 : (L.cfg w).1 = w.tlsCtx := rfl
    rw [h2, hctx] at this
    cases this

/-- the resumption setting is a property of the client's context: no call changes it -/
theorem resumption_setting_is_stable (op : SessionOp) (w : WorldT) :
    (afterT op.run w).resume = w.resume ∧ (afterT op.run w).tlsCtx = w.tlsCtx := by
  have hc := (op_tag_added op w).1
  exact ⟨congrArg (fun k => k.2.1) hc, congrArg (fun k => k.1) hc⟩

/-- **histories**: over any number of consecutive calls on one connection (1, 20 or more transfers, listings, logins and
    simple commands in any order, returned or thrown), every data-connection handshake offers the control connection's
    session exactly when the context was created with resumption - the first transfer and every later one alike
    (induction over the list of calls; `C11.runAll` runs them one after the other) -/
theorem history_offers_control_session_iff_resumption (ops : List SessionOp) (w : WorldT) :
    ∃ evs, (runAll ops w).trace = w.trace ++ evs ∧
      (∀ d offered ok, EvT.dataTlsHandshake d offered ok ∈ evs → offered = w.resume) ∧
      (runAll ops w).resume = w.resume := by
  obtain ⟨evs, ht, hc, he⟩ := runAll_keeps (R := L.RT L.TagOk) (op_keeps L.atoms_tag) ops w
  exact ⟨evs, ht, fun d o k hm => (L.tag_offer he hm).1, congrArg (fun k => k.2.1) hc⟩

end Ftp.Props.C18
