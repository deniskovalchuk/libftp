import Ftp.Lemmas.Ascii
/-
  C05 - ASCII type converts line endings exactly, independent of chunking.
  Model: `Ftp.Ascii` (ascii_istream::read behind a chopping source, ascii_ostream::write/flush).
-/
namespace Ftp.Props.C05
open Ftp.Ascii

/-- upload: for every byte string, every internal buffer size >= 1, every short-read pattern of the source and every
    sequence of caller buffer sizes, the concatenated output of the reads (until one returns nothing - which happens
    within the stated number of calls) is the whole-string substitution CR LF | CR | LF -> CR LF -/
theorem upload_eq_spec (bufSize : Nat) (hb : 1 ≤ bufSize) (data : Bytes) (sched sizes : List Nat) :
    upload bufSize data sched sizes = (Spec.ulSpec data, true) :=
  upload_spec bufSize hb data sched sizes

/-- upload output does not depend on any of the chunkings -/
theorem upload_chunking_independent (b1 b2 : Nat) (h1 : 1 ≤ b1) (h2 : 1 ≤ b2) (data : Bytes)
    (sched1 sched2 sizes1 sizes2 : List Nat) :
    upload b1 data sched1 sizes1 = upload b2 data sched2 sizes2 := by
  rw [upload_eq_spec b1 h1, upload_eq_spec b2 h2]

/-- download: for every partition of the received bytes into write calls, the bytes handed to the sink by the writes
    and the final flush are the whole-string substitution CR LF -> LF (a final CR is delivered by flush) -/
theorem download_eq_spec (chunks : List Bytes) :
    download chunks false [] = Spec.dlSpec chunks.flatten := by
  rw [download_spec]
  simp [dlRest]

/-- download output does not depend on the partition -/
theorem download_chunking_independent (c1 c2 : List Bytes) (h : c1.flatten = c2.flatten) :
    download c1 false [] = download c2 false [] := by
  rw [download_eq_spec, download_eq_spec, h]

/-- LF-only text (no CR) survives upload followed by download unchanged -/
theorem roundtrip (s : Bytes) (h : CR ∉ s) : Spec.dlSpec (Spec.ulSpec s) = s :=
  roundtrip_aux s h

/-- the reference substitutions are the ones the property names: upload maps CR LF, lone CR and lone LF to CR LF -/
theorem ulSpec_cases (c : Byte) (t : Bytes) :
    Spec.ulSpec [] = [] ∧
    Spec.ulSpec (CR :: LF :: t) = CR :: LF :: Spec.ulSpec t ∧
    (t.head? ≠ some LF → Spec.ulSpec (CR :: t) = CR :: LF :: Spec.ulSpec t) ∧
    Spec.ulSpec (LF :: t) = CR :: LF :: Spec.ulSpec t ∧
    (c ≠ CR → c ≠ LF → Spec.ulSpec (c :: t) = c :: Spec.ulSpec t) := by
  refine ⟨rfl, ?_, ?_, ?_, ?_⟩
  · simp [Spec.ulSpec, Spec.ulGo, cr_ne_lf.symm]
  · intro h
    simp only [Spec.ulSpec, Spec.ulGo, if_true]
    rw [ulGo_true_eq_false t h]
  · simp [Spec.ulSpec, Spec.ulGo, cr_ne_lf.symm]
  · intro h1 h2
    simp [Spec.ulSpec, Spec.ulGo, h1, h2]

/-- non-vacuity: every state of both converters is reached -/
example : upload 2 (str "a\r\nb\nc\rd\r") [1, 1] [1, 2] = (str "a\r\nb\r\nc\r\nd\r\n", true) ∧
    download [str "a\r", str "\nb\r", str "\r", str "c\r"] false [] = str "a\nb\r\rc\r" := by decide +kernel

end Ftp.Props.C05
