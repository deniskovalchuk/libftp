import Ftp.Lemmas.ClientSession
/-
  C13 - disconnect always releases the connection; a new connection starts clean.
  Model: `Ftp.Client.connect / disconnect / ctlRecv` (the TLS aspects: `Ftp.ClientTls`, in C13t.lean).
-/
namespace Ftp.Props.C13
open Ftp.Client Ftp.Session Ftp.Props.C01 Ftp.Client.SessL

/-- a new connection starts clean: whatever the old session left behind - any buffer content, any unread bytes in
    flight, a pending "skip LF", a connection still marked open or closed - the first reply of the new session is the
    new server's greeting, and the session is in step afterwards -/
theorem connect_starts_clean (h : Bytes) (p : Nat) (w : World) (g : WfReply) (rest : List SGroup)
    (hg : g.wf) (h120 : g.code ≠ 120) (hsc : w.script = (⟨[g], none⟩ :: rest).map SGroup.enc) :
    ∃ w', Client.connect h p none w = (.ok (Replies.empty.append (replyOf g)), w') ∧
      (g.code ≠ 421 → InStep w' [] ∧ w'.connected = true) ∧ w'.script = rest.map SGroup.enc := by
  obtain ⟨hs, hscr, hconn⟩ := sync_openW h p w ⟨[g], none⟩ rest
    (by intro r hr; simp only [List.mem_singleton] at hr; subst hr; exact hg) hsc
  obtain ⟨h1, h2⟩ := ctlRecv_got hconn hs
  refine ⟨gotW (openW h p w) g.code g.text, ?_, ?_, ?_⟩
  · rw [connect_open h p none w (connectCheck_none w), CtlL.bind_apply]
    have hgreet : greet (openW h p w) = (.ok (replyOf g, Replies.empty.append (replyOf g)),
        gotW (openW h p w) g.code g.text) := by
      unfold greet
      rw [CtlL.bind_apply, recvInto_run _ h1]
      have : ((replyOf g).code == 120) = false := by simpa [replyOf] using h120
      simp only [this, Bool.false_eq_true, if_false]
      rfl
    rw [hgreet]
    simp only [afterGreeting]
    split <;> rfl
  · intro h421
    have hc := gotW_connected _ g.code g.text hconn h421
    exact ⟨⟨hc, h2⟩, hc⟩
  · exact hscr

/-- a non-graceful disconnect sends no command and leaves the client disconnected, from any state -/
theorem nongraceful_disconnect (w : World) :
    result (Client.disconnect false) w = .ok none ∧ (after (Client.disconnect false) w).connected = false ∧
    writes (added (Client.disconnect false) w) = [] ∧
    (w.connected = true → added (Client.disconnect false) w = [Ev.ctlShutdown, Ev.ctlClose]) ∧
    (w.connected = false → added (Client.disconnect false) w = []) := by
  obtain ⟨w2, hw2, hcn2, htr2⟩ := disconnect_tail (none : Option Reply) w
  have hrun : Client.disconnect false w = (.ok none, w2) := by
    unfold Client.disconnect
    msimp
    msimp at hw2
    exact hw2
  have hadd : added (Client.disconnect false) w = if w.connected = true then [.ctlShutdown, .ctlClose] else [] :=
    DataL.added_of_trace _ _ _ (by simp only [after, hrun, htr2])
  refine ⟨by simp [result, hrun], by simp [after, hrun, hcn2], ?_, ?_, ?_⟩ <;> rw [hadd]
  · split <;> rfl
  · intro h; rw [if_pos h]
  · intro h; rw [if_neg (by simp [h])]

/-- a graceful disconnect sends QUIT, returns its reply and leaves the client disconnected -/
theorem graceful_disconnect (w : World) (r : WfReply) (rest : List SGroup) (hstep : InStep w []) (hr : r.wf)
    (hsc : w.script = (⟨[r], none⟩ :: rest).map SGroup.enc) :
    result (Client.disconnect true) w = .ok (some (replyOf r)) ∧
    writes (added (Client.disconnect true) w) = [str "QUIT\r\n"] ∧
    (after (Client.disconnect true) w).connected = false := by
  obtain ⟨hconn, hsync⟩ := hstep
  obtain ⟨h1, _⟩ := ask_next (str "QUIT") Replies.empty hconn hsync hsc hr (by simp)
  obtain ⟨_, h1, _⟩ := processCommandInto_ok_iff.mp h1
  obtain ⟨w2, hw2, hcn2, htr2⟩ := disconnect_tail (some (replyOf r)) (askW (str "QUIT") w r)
  have hrun : Client.disconnect true w = (.ok (some (replyOf r)), w2) := by
    unfold Client.disconnect
    have hmk : mkCmd "QUIT" none = pure (str "QUIT") := rfl
    rw [hmk]
    msimp [DataL.bind_ok (processCommand_run hconn h1)]
    msimp at hw2
    exact hw2
  refine ⟨by simp [result, hrun], ?_, by simp [after, hrun, hcn2]⟩
  rw [DataL.added_of_trace _ _ (turnEvs w (str "QUIT") r.code r.text ++
    (if (askW (str "QUIT") w r).connected = true then [.ctlShutdown, .ctlClose] else []))
    (by simp only [after, hrun, htr2, askW_trace, List.append_assoc]),
    writes_append, (writes_turnEvs ..).1]
  split <;> decide

/-- receiving a 421 reply closes the connection: the client reports not connected -/
theorem reply_421_disconnects (w : World) (r : WfReply) (q : List WfReply) (hstep : InStep w (r :: q)) (h421 : r.code = 421) :
    result ctlRecv w = .ok (replyOf r) ∧ (after ctlRecv w).connected = false ∧
    Ev.ctlClose ∈ added ctlRecv w := by
  obtain ⟨h1, _⟩ := ctlRecv_got hstep.1 hstep.2
  refine ⟨by simp [result, h1], by simp [after, h1, gotW, h421], ?_⟩
  have htr : (after ctlRecv w).trace = w.trace ++ ([.ctlReadLine, .ctlReply r.code r.text] ++ [.ctlShutdown, .ctlClose] ++
      w.observers.map (fun o => Ev.obsReply o r.code r.text)) := by
    simp [after, h1, gotW, replyEvs, h421]
  rw [DataL.added_of_trace _ _ _ htr]
  simp

/-- a successful connect reports connected -/
theorem connected_after_connect (h : Bytes) (p : Nat) (c : Option (Bytes × Bytes)) (w : World) (rs : Replies) (w' : World)
    (hc : Client.connect h p c w = (.ok rs, w')) (hno421 : ∀ r ∈ rs.list, r.code ≠ 421) : w'.connected = true := by
  obtain ⟨as, st, hl, _⟩ := CtlL.connect_steps hc
  obtain ⟨evs0, ht0, _, hrec⟩ := st.ext
  obtain ⟨x, w2, hg, ht⟩ := CtlL.connect_ok hc
  have k1 : CtlL.Keeps Rc greet := by
    unfold greet
    exact CtlL.Keeps.bind (recvInto_rc _) (fun x => by dsimp only; split; exact recvInto_rc _; exact CtlL.Keeps.pure _)
  have k2 : CtlL.Keeps Rc (afterGreeting c x) := by
    unfold afterGreeting
    split
    · exact CtlL.Keeps.pure _
    · split
      · exact CtlL.Keeps.bind (processLogin_rc _ _ _) (fun _ => CtlL.Keeps.pure _)
      · exact CtlL.Keeps.pure _
  obtain ⟨evs, ht, hcn⟩ := CtlL.IsPre.trans (k1.of_eq hg) (k2.of_eq ht)
  rcases hcn rfl with hcn | ⟨t, hmem⟩
  · exact hcn
  · exfalso
    obtain rfl : evs0 = evs := List.append_cancel_left (ht0.symm.trans ht)
    have : (⟨421, t⟩ : Reply) ∈ received evs0 := mem_received.2 hmem
    rw [hrec, ← hl] at this
    exact hno421 _ this rfl

/-- after a disconnect, operations fail without touching the old connection until a new connect -/
theorem no_write_while_disconnected (op : Op) (w : World) (hd : w.connected = false)
    (hne : ∀ h p c, op ≠ .connect h p c) : writes (added op.run w) = [] := by
  obtain ⟨_, evs, ht, hw⟩ := run_rd op hne w hd
  rw [DataL.added_of_trace _ _ evs ht]
  exact hw

end Ftp.Props.C13
