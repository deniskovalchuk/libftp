import Ftp.Spec.Pure
import Ftp.Lemmas.Utils
/-
  C16 - typed replies carry a value exactly when the 213 payload is well-formed.
  Model: `Ftp.Typed.parseSize / parseDatetime / parseFileList`.
-/
namespace Ftp.Props.C16
open Ftp.Utils Ftp.Typed

/-- the size model is the reference function, for every reply -/
theorem size_eq_spec (r : Reply) : parseSize r = Spec.sizeOf r := by
  unfold parseSize Spec.sizeOf
  by_cases hc : r.code = 213
  · simp only [hc, bne_self_eq_false, Bool.false_eq_true, if_false, true_and]
    by_cases hl : r.text.length < 5
    · simp [hl, List.drop_eq_nil_of_le (show r.text.length ≤ 4 by omega), isDigits]
    · simp only [hl, if_false]
      rw [parseU64_spec]
      have : (decValue (List.drop 4 r.text) ≤ u64max) ↔ decValue (List.drop 4 r.text) < Spec.two64 := by
        unfold u64max Spec.two64; omega
      simp only [this]
  · have : (r.code != 213) = true := by simpa using hc
    simp [this, hc]

/-- a size value exists exactly for a 213 reply whose payload is a decimal number below 2^64, and it is that number -/
theorem size_value (r : Reply) (n : Nat) :
    parseSize r = some n ↔
      (r.code = 213 ∧ isDigits (r.text.drop 4) = true ∧ decValue (r.text.drop 4) = n ∧ n < 2 ^ 64) := by
  rw [size_eq_spec]; unfold Spec.sizeOf Spec.two64
  dsimp only
  constructor
  · intro h
    split at h
    · rename_i hh; obtain ⟨h1, h2, h3⟩ := hh
      injection h with h; subst h; exact ⟨h1, h2, rfl, by omega⟩
    · cases h
  · rintro ⟨h1, h2, h3, h4⟩
    subst h3
    have : decValue (List.drop 4 r.text) < 18446744073709551616 := by omega
    simp [h1, h2, this]

/-- the reference value as a record -/
def toDateTime : List Nat → Option DateTime
  | [y, mo, d, h, mi, s, f] => some ⟨y, mo, d, h, mi, s, f⟩
  | _ => none

/-- a fixed-width field of the time-val that lies inside the text and cannot exceed its type -/
private theorem field_spec (max : Nat) (tv : Bytes) (pos n : Nat) (hm : max ≤ u64max) (hn : 0 < n)
    (hp : 10 ^ n ≤ max + 1) (hl : pos + n ≤ tv.length) :
    parseBounded max (substr tv pos n) =
      if (substr tv pos n).all isDigit = true then some (Spec.field tv pos n) else none := by
  have hlen : (substr tv pos n).length = n := by simp [substr]; omega
  exact parseBounded_short max hm _ (by intro h; rw [h] at hlen; simp at hlen; omega) (by rw [hlen]; exact hp)

/-- the fourteen digits of a time-val are its six fields -/
private theorem take14_all (tv : Bytes) :
    (tv.take 14).all isDigit = ((substr tv 0 4).all isDigit && (substr tv 4 2).all isDigit && (substr tv 6 2).all isDigit &&
      (substr tv 8 2).all isDigit && (substr tv 10 2).all isDigit && (substr tv 12 2).all isDigit) := by
  rw [show 14 = 4 + 2 + 2 + 2 + 2 + 2 from rfl]
  simp only [List.take_add, List.all_append, substr, List.drop_zero]

/-- the time model is the reference function, for every reply: a value exactly for a 213 time-val
    (14 digits, optionally a period and one or more digits) whose fraction fits 32 bits, its fields equal to
    the digits written -/
theorem time_eq_spec (r : Reply) : parseDatetime r = (Spec.timeOf r).bind toDateTime := by
  unfold parseDatetime Spec.timeOf
  dsimp only
  by_cases hc : r.code = 213
  case neg => simp [hc]
  by_cases hl : r.text.length < 5
  · simp [hc, hl, List.drop_eq_nil_of_le (show r.text.length ≤ 4 by omega), Spec.isTimeVal]
  generalize r.text.drop 4 = tv
  by_cases h14 : tv.length < 14
  · simp [hc, hl, h14, Spec.isTimeVal, show ¬ min 14 tv.length = 14 by omega]
  have hu : (65535 : Nat) ≤ u64max ∧ (255 : Nat) ≤ u64max := by unfold u64max; omega
  simp only [hc, hl, h14, bne_self_eq_false, Bool.false_eq_true, if_false, true_and, parseU16, parseU8,
    field_spec 65535 tv 0 4 hu.1 (by omega) (by omega) (by omega),
    field_spec 255 tv 4 2 hu.2 (by omega) (by omega) (by omega),
    field_spec 255 tv 6 2 hu.2 (by omega) (by omega) (by omega),
    field_spec 255 tv 8 2 hu.2 (by omega) (by omega) (by omega),
    field_spec 255 tv 10 2 hu.2 (by omega) (by omega) (by omega),
    field_spec 255 tv 12 2 hu.2 (by omega) (by omega) (by omega)]
  have ht : (tv.take 14).length = 14 := by simp; omega
  simp only [Spec.isTimeVal, ht, take14_all, decide_true, Bool.true_and]
  -- field by field: a field that is not all digits makes both sides `none`
  cases List.all (substr tv 0 4) isDigit <;>
    simp only [Bool.false_eq_true, if_false, if_true, Bool.false_and, Bool.true_and, false_and, Option.bind_none]
  cases List.all (substr tv 4 2) isDigit <;>
    simp only [Bool.false_eq_true, if_false, if_true, Bool.false_and, Bool.true_and, false_and, Option.bind_none]
  cases List.all (substr tv 6 2) isDigit <;>
    simp only [Bool.false_eq_true, if_false, if_true, Bool.false_and, Bool.true_and, false_and, Option.bind_none]
  cases List.all (substr tv 8 2) isDigit <;>
    simp only [Bool.false_eq_true, if_false, if_true, Bool.false_and, Bool.true_and, false_and, Option.bind_none]
  cases List.all (substr tv 10 2) isDigit <;>
    simp only [Bool.false_eq_true, if_false, if_true, Bool.false_and, Bool.true_and, false_and, Option.bind_none]
  cases List.all (substr tv 12 2) isDigit <;>
    simp only [Bool.false_eq_true, if_false, if_true, Bool.false_and, Bool.true_and, false_and, Option.bind_none]
  by_cases hg : tv.length > 14
  · have hne : ¬ tv.length = 14 := by omega
    have hv : decValue (List.drop 15 tv) ≤ 4294967295 ↔ decValue (List.drop 15 tv) < Spec.two32 := by
      unfold Spec.two32; omega
    simp only [hg, if_true, hne, decide_false, Bool.false_or, parseU32_spec, hv]
    generalize tv.getD 14 0 = c
    by_cases hp : c = 46
    · by_cases hf : isDigits (List.drop 15 tv) = true ∧ decValue (List.drop 15 tv) < Spec.two32
      · simp [hp, hf, Spec.timeFields, toDateTime]
      · simp only [hp, bne_self_eq_false, Bool.false_eq_true, if_false, hf, decide_true, Bool.true_and]
        rfl
    · simp [hp]
  · have e : List.drop 15 tv = [] := List.drop_eq_nil_of_le (by omega)
    have h0 : (0 : Nat) < Spec.two32 := by decide
    simp [show tv.length = 14 by omega, e, decValue, h0, Spec.timeFields, toDateTime]

/-- sound: a time value exists only for a 213 reply whose payload is an RFC 3659 time-val, and its fields are the
    digits written -/
theorem time_sound (r : Reply) (d : DateTime) (h : parseDatetime r = some d) :
    r.code = 213 ∧ Spec.isTimeVal (r.text.drop 4) = true ∧
    [d.year, d.month, d.day, d.hour, d.minute, d.second, d.fractions] = Spec.timeFields (r.text.drop 4) := by
  rw [time_eq_spec] at h
  unfold Spec.timeOf at h
  dsimp only at h
  split at h
  · rename_i hh
    refine ⟨hh.1, hh.2.1, ?_⟩
    simp only [Spec.timeFields, Option.bind_some, toDateTime] at h ⊢
    injection h with h; subst h; rfl
  · simp at h

/-- complete: a time-val whose fraction fits 32 bits always yields a value -/
theorem time_complete (r : Reply) (h1 : r.code = 213) (h2 : Spec.isTimeVal (r.text.drop 4) = true)
    (h3 : decValue ((r.text.drop 4).drop 15) < 2 ^ 32) : (parseDatetime r).isSome = true := by
  rw [time_eq_spec]
  unfold Spec.timeOf Spec.two32
  dsimp only
  have : decValue (List.drop 19 r.text) < 4294967296 := by
    have := h3; simp only [List.drop_drop] at this; omega
  simp [h1, h2, this, Spec.timeFields, toDateTime]

/-- the listing model is the reference function (LF-separated pieces, one trailing CR removed from each) -/
theorem list_eq_spec (t : Bytes) : parseFileList t = Spec.listLines t := by
  have h : ∀ (t cur : Bytes), getlinePieces t cur = Spec.splitLF t cur := by
    intro t
    induction t with
    | nil => intro cur; rfl
    | cons c t ih => intro cur; simp only [getlinePieces, Spec.splitLF, ih]
  unfold parseFileList Spec.listLines
  rw [h]
  rfl

private theorem pieces_line (l rest cur : Bytes) (h : LF ∉ l) :
    getlinePieces (l ++ LF :: rest) cur = (cur ++ l) :: getlinePieces rest [] := by
  induction l generalizing cur with
  | nil => simp [getlinePieces]
  | cons c l ih =>
    have hc : c ≠ LF := by intro e; apply h; simp [e]
    have hl : LF ∉ l := by intro e; apply h; simp [e]
    simp only [List.cons_append, getlinePieces, hc, if_false]
    rw [ih _ hl]; simp

/-- text made of LF-terminated lines (optionally CR LF) -/
def render (crlf : Bool) : List Bytes → Bytes
  | [] => []
  | l :: ls => l ++ (if crlf then [CR, LF] else [LF]) ++ render crlf ls

/-- round trip: lines free of LF that do not end in CR, rendered with CR LF or with LF, are recovered exactly -/
theorem list_roundtrip (crlf : Bool) (ls : List Bytes)
    (h : ∀ l ∈ ls, LF ∉ l ∧ l.getLast? ≠ some CR) : parseFileList (render crlf ls) = ls := by
  unfold parseFileList
  induction ls with
  | nil => simp [render, getlinePieces]
  | cons l ls ih =>
    obtain ⟨hlf, hcr⟩ := h l (by simp)
    -- the piece up to the LF: the line, with the CR of a CR LF, which `stripOneCR` removes
    have e : render crlf (l :: ls) = (l ++ if crlf then [CR] else []) ++ LF :: render crlf ls := by
      cases crlf <;> simp [render]
    have hs : stripOneCR (l ++ if crlf then [CR] else []) = l := by cases crlf <;> simp [stripOneCR, hcr]
    rw [e, pieces_line _ _ _ (by cases crlf <;> simp [hlf, cr_ne_lf.symm]), List.nil_append, List.map_cons, hs,
      ih fun x hx => h x (by simp [hx])]

private theorem pieces_lf_free (t cur : Bytes) (hc : LF ∉ cur) : ∀ l ∈ getlinePieces t cur, LF ∉ l := by
  induction t generalizing cur with
  | nil =>
    intro l hl
    simp only [getlinePieces] at hl
    split at hl
    · simp at hl
    · simp at hl; subst hl; exact hc
  | cons c t ih =>
    intro l hl
    simp only [getlinePieces] at hl
    split at hl
    · simp only [List.mem_cons] at hl
      rcases hl with hl | hl
      · subst hl; exact hc
      · exact ih [] (by simp) l hl
    · rename_i hne
      apply ih (cur ++ [c]) _ l hl
      simp only [List.mem_append, List.mem_singleton, not_or]
      exact ⟨hc, fun e => hne e.symm⟩

/-- every line of a listing is free of LF -/
theorem list_lines_lf_free (t : Bytes) : ∀ l ∈ parseFileList t, LF ∉ l := by
  intro l hl
  unfold parseFileList at hl
  simp only [List.mem_map] at hl
  obtain ⟨p, hp, rfl⟩ := hl
  have := pieces_lf_free t [] (by simp) p hp
  unfold stripOneCR
  split
  · intro hm; exact this (List.dropLast_subset _ hm)
  · exact this

/-- non-vacuity -/
example : parseSize ⟨213, str "213 18446744073709551615"⟩ = some 18446744073709551615 ∧
    parseSize ⟨213, str "213 18446744073709551616"⟩ = none ∧
    parseDatetime ⟨213, str "213 19980615100045.014"⟩ = some ⟨1998, 6, 15, 10, 0, 45, 14⟩ ∧
    parseDatetime ⟨213, str "213 20200101120000x5"⟩ = none ∧
    parseDatetime ⟨213, str "213 20200101120000."⟩ = none ∧
    parseFileList (str "a\r\nb\n\nc") = [str "a", str "b", [], str "c"] := by decide +kernel

end Ftp.Props.C16
