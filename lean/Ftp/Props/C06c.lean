import Ftp.Props.C06
import Ftp.Lemmas.ClientSession
/-
  C06 (client level) - data connections go to, or are advertised at, exactly the negotiated endpoint.
-/
namespace Ftp.Client.SessL
open Ftp.Client.Walk Ftp.Client.CtlL

/-! ### control programs under an arbitrary predicate on the added events -/

private theorem own_of_ctl {P : Ev → Prop} (h : ∀ e, isCtl e = true → P e) {w w' : World} (hs : CtlStep w w') :
    Own World.ttype P w w' :=
  hs.mono (fun _ _ h => congrArg (·.1.ttype) h) h

private theorem recvInto_p {P : Ev → Prop} (h : ∀ e, isCtl e = true → P e) (rs : Replies) :
    Keeps (Own World.ttype P) (recvInto rs) :=
  fun w => own_of_ctl h (recvInto_step rs w)

private theorem processCommandInto_p {P : Ev → Prop} (h : ∀ e, isCtl e = true → P e) (c : Bytes) (rs : Replies) :
    Keeps (Own World.ttype P) (processCommandInto c rs) :=
  fun w => own_of_ctl h (processCommandInto_step c rs w)

/-! ### events that open a data descriptor or connect it -/

def isOpenEv : Ev → Bool
  | .dataSocket _ | .dataConnect _ _ _ _ | .dataAccept _ _ => true
  | _ => false

abbrev Pn : Ev → Prop := fun e => isOpenEv e = false

private theorem pn_of_ctl (e : Ev) (h : isCtl e = true) : Pn e := by
  cases e <;> first | rfl | simp [isCtl] at h

def isAccEv : Ev → Bool
  | .dataAccept _ _ => true
  | _ => false

abbrev Pa : Ev → Prop := fun e => isAccEv e = false

private theorem pa_of_ctl (e : Ev) (h : isCtl e = true) : Pa e := by
  cases e <;> first | rfl | simp [isCtl] at h

private theorem closeD_pn (d : Nat) : Keeps (Own World.ttype Pn) (closeD d) := by unfold closeD; own_walk []
private theorem dataDisconnect_pn (g : Bool) : Keeps (Own World.ttype Pn) (dataDisconnect g) := by
  unfold dataDisconnect; own_walk [closeD_pn _]
private theorem passiveRest_pn (cmd : Bytes) (rs : Replies) : Keeps (Own World.ttype Pn) (passiveRest cmd rs) := by
  unfold passiveRest; own_walk [processCommandInto_p pn_of_ctl _ _, dataDisconnect_pn _]

private theorem activeRest_t (cmd : Bytes) (rs : Replies) : Keeps (Own World.ttype fun _ => True) (activeRest cmd rs) := by
  have ha : Keeps (Own World.ttype fun _ => True) dataAccept :=
    Own.keeps_mono dataAccept_own (fun _ _ h => congrArg (·.2.1.ttype) h) fun _ _ => trivial
  unfold activeRest
  own_walk [processCommandInto_p (fun _ _ => trivial) _ _, recvInto_p (fun _ _ => trivial) _, ha]

end Ftp.Client.SessL

namespace Ftp.Props.C06
open Ftp.Client Ftp.Session Ftp.Props.C01 Ftp.Endpoint Ftp.Client.SessL

def connects (tr : List Ev) : List Ev := tr.filter fun | .dataConnect _ _ _ _ => true | _ => false

private theorem connects_append (a b : List Ev) : connects (a ++ b) = connects a ++ connects b := by
  simp [connects]

private theorem quiet_of_pn {l : List Ev} (h : ∀ e ∈ l, Pn e) : connects l = [] ∧ opened l = [] := by
  refine ⟨List.filter_eq_nil_iff.2 fun e he => ?_, List.filterMap_eq_nil_iff.2 fun e he => ?_⟩ <;>
    have := h e he <;> cases e <;> first | exact Bool.false_ne_true | rfl | cases this

private theorem mid (A B : List Ev) (d : Nat) (addr : Bytes) (port : Nat) (ok : Bool) (hA : ∀ e ∈ A, Pn e)
    (hB : ∀ e ∈ B, Pn e) :
    connects (A ++ [Ev.dataSocket d, Ev.dataConnect d addr port ok] ++ B) = [Ev.dataConnect d addr port ok] ∧
    opened (A ++ [Ev.dataSocket d, Ev.dataConnect d addr port ok] ++ B) = [d] := by
  simp only [connects_append, opened_append, (quiet_of_pn hA).1, (quiet_of_pn hA).2, (quiet_of_pn hB).1,
    (quiet_of_pn hB).2]
  exact ⟨rfl, rfl⟩

private theorem turnEvs_pn (w : World) (c : Bytes) (code : Nat) (text : Bytes) : ∀ e ∈ turnEvs w c code text, Pn e :=
  fun e he => pn_of_ctl e (turnEvs_ctl w c code text e he)

/-- the passive set-up, its command accepted and its reply parsed: connect, then the transfer command -/
private theorem passive_connects {β : Type} (verb : String) (parse : Bytes → Option β) (conn : β → M Unit)
    (cmd : Bytes) (rs : Replies) (w : World) (s : WfReply) (rest : List SGroup) (x : β) (addr : Bytes) (port : Nat)
    (hstep : InStep w []) (hs : s.wf) (hacc : s.code < 400) (hsc : w.script = (⟨[s], none⟩ :: rest).map SGroup.enc)
    (hp : parse s.text = some x)
    (hconn : conn x (askW (str verb) w s) = dataConnect addr port (askW (str verb) w s)) :
    connects (added (passive verb parse conn cmd rs) w) =
      [Ev.dataConnect w.nextD addr port (w.connectOks.head?.getD false)] ∧
    opened (added (passive verb parse conn cmd rs) w) = [w.nextD] := by
  have hrun := passive_parsed verb parse conn cmd rs w s none rest hstep hs hacc hsc
  rw [hp] at hrun
  simp only [CtlL.bind_apply, hconn] at hrun
  have hA := turnEvs_pn w (str verb) s.code s.text
  cases hc : w.connectOks.head?.getD false with
  | false =>
    have h3 : dataConnect addr port (askW (str verb) w s) = (.throw, dcFailW addr port (askW (str verb) w s)) := by
      rw [dataConnect_eq]
      exact if_neg (by show ¬ w.connectOks.head?.getD false = true; simp [hc])
    rw [DataL.added_of_trace _ _ (turnEvs w (str verb) s.code s.text ++
      [Ev.dataSocket w.nextD, Ev.dataConnect w.nextD addr port false] ++ [Ev.dataClose w.nextD])
      (by simp only [after, hrun, h3]; simp [dcFailW, askW_trace]; rfl)]
    exact mid _ _ _ _ _ _ hA (by intro e he; simp only [List.mem_singleton] at he; subst he; rfl)
  | true =>
    have h3 := dataConnect_ok addr port (askW (str verb) w s) hc
    obtain ⟨_, B, hB, pB⟩ := passiveRest_pn cmd (rs.append (replyOf s)) (dcW addr port (askW (str verb) w s))
    rw [DataL.added_of_trace _ _ (turnEvs w (str verb) s.code s.text ++
      [Ev.dataSocket w.nextD, Ev.dataConnect w.nextD addr port true] ++ B)
      (by simp only [after, hrun, h3]; rw [hB]; simp [dcW, askW_trace]; rfl)]
    exact mid _ B _ _ _ _ hA pB

-- the proof does not use `hwf`
set_option linter.unusedVariables false in
/-- EPSV: exactly one data connection is opened, to the control connection's peer address at the port written in the
    229 reply -/
theorem epsv_connects_to_negotiated_port (cmd : Bytes) (rs : Replies) (w : World) (s : WfReply) (rest : List SGroup)
    (port : Nat) (hstep : InStep w []) (hs : s.wf) (hacc : s.code < 400) (hport : parseEpsv s.text = some port)
    (hsc : w.script = (⟨[s], none⟩ :: rest).map SGroup.enc) (hwf : WfScript rest) :
    connects (added (processEpsv cmd rs) w) = [Ev.dataConnect w.nextD (addrText w) port (w.connectOks.head?.getD false)] ∧
    (opened (added (processEpsv cmd rs) w)) = [w.nextD] := by
  rw [processEpsv_eq]
  exact passive_connects _ _ _ cmd rs w s rest port (addrText w) port hstep hs hacc hsc hport rfl

-- the proof does not use `hwf`
set_option linter.unusedVariables false in
/-- PASV: ... to the IPv4 address and the port p1 * 256 + p2 written in the 227 reply -/
theorem pasv_connects_to_negotiated_endpoint (cmd : Bytes) (rs : Replies) (w : World) (s : WfReply) (rest : List SGroup)
    (ip : Bytes) (port : Nat) (hstep : InStep w []) (hs : s.wf) (hacc : s.code < 400) (hport : parsePasv s.text = some (ip, port))
    (hsc : w.script = (⟨[s], none⟩ :: rest).map SGroup.enc) (hwf : WfScript rest) :
    connects (added (processPasv cmd rs) w) = [Ev.dataConnect w.nextD ip port (w.connectOks.head?.getD false)] ∧
    (opened (added (processPasv cmd rs) w)) = [w.nextD] := by
  rw [processPasv_eq]
  exact passive_connects _ _ _ cmd rs w s rest (ip, port) ip port hstep hs hacc hsc hport rfl

/-- the reply of the passive set-up does not parse: an error, nothing is opened -/
private theorem passive_malformed {β : Type} (verb : String) (parse : Bytes → Option β) (conn : β → M Unit)
    (cmd : Bytes) (rs : Replies) (w : World) (s : WfReply) (rest : List SGroup) (hstep : InStep w []) (hs : s.wf)
    (hacc : s.code < 400) (hsc : w.script = (⟨[s], none⟩ :: rest).map SGroup.enc) (hp : parse s.text = none) :
    result (passive verb parse conn cmd rs) w = .throw ∧ opened (added (passive verb parse conn cmd rs) w) = [] := by
  have hrun := passive_parsed verb parse conn cmd rs w s none rest hstep hs hacc hsc
  rw [hp] at hrun
  refine ⟨by simp [result, hrun], ?_⟩
  rw [DataL.added_of_trace _ _ _ (by simp only [after, hrun]; exact askW_trace ..)]
  exact (quiet_of_pn (turnEvs_pn _ _ _ _)).2

/-- a 227 / 229 reply without well-formed fields is reported as an error: nothing is connected to -/
theorem malformed_passive_reply_is_an_error (cmd : Bytes) (rs : Replies) (w : World) (s : WfReply) (rest : List SGroup)
    (hstep : InStep w []) (hs : s.wf) (hacc : s.code < 400)
    (hsc : w.script = (⟨[s], none⟩ :: rest).map SGroup.enc) :
    (parseEpsv s.text = none → result (processEpsv cmd rs) w = .throw ∧ opened (added (processEpsv cmd rs) w) = []) ∧
    (parsePasv s.text = none → result (processPasv cmd rs) w = .throw ∧ opened (added (processPasv cmd rs) w) = []) := by
  rw [processEpsv_eq, processPasv_eq]
  exact ⟨passive_malformed _ _ _ cmd rs w s rest hstep hs hacc hsc, passive_malformed _ _ _ cmd rs w s rest hstep hs hacc hsc⟩

/-- the events of the active set-up when the advertisement can be built -/
private theorem active_events (eprt : Bool) (cmd : Bytes) (rs : Replies) (w : World) (c : Bytes)
    (hconn : w.connected = true) (hl : activeLine eprt w = some c) :
    ∃ rest, added (processActive eprt cmd rs) w =
        [Ev.dataSocket w.nextD, Ev.dataBind w.nextD (addrText w) 0 (w.listenPorts.head?.getD 0), Ev.dataListen w.nextD] ++ rest ∧
      (writes rest).head? = some (c ++ [CR, LF]) := by
  obtain ⟨_, evs, ht, _⟩ := activeRest_t cmd rs (sendW c (listenW w))
  refine ⟨w.observers.map (fun o => Ev.obsRequest o c) ++ [.ctlWrite (c ++ CRLF)] ++ evs, ?_, ?_⟩
  · apply DataL.added_of_trace
    rw [after, processActive_run eprt cmd rs w c hconn hl, ht]
    simp [sendW, listenW]
  · rw [writes_append, writes_append,
      (CtlL.silent_obs (fun o => Ev.obsRequest o c) (fun _ _ h => nomatch h) (fun _ _ _ h => nomatch h) _).1]
    rfl

/-- active mode: the client is already listening (socket, bind to the control connection's local address, listen)
    when it advertises, and the EPRT argument decodes - by the server-side reference decoder - to exactly the family,
    address and port of that listening socket -/
theorem eprt_advertises_listening_socket (cmd : Bytes) (rs : Replies) (w : World) (hconn : w.connected = true)
    (hp : w.listenPorts.head?.getD 0 < 65536) :
    ∃ rest, added (processActive true cmd rs) w =
        [Ev.dataSocket w.nextD, Ev.dataBind w.nextD (addrText w) 0 (w.listenPorts.head?.getD 0), Ev.dataListen w.nextD] ++ rest ∧
      ∃ line, (writes rest).head? = some (line ++ [CR, LF]) ∧ line.take 5 = str "EPRT " ∧
        Spec.decodeEprtArg (line.drop 5) = some ((if w.v6 then 2 else 1), addrText w, w.listenPorts.head?.getD 0) := by
  obtain ⟨rest, h1, h2⟩ := active_events true cmd rs w _ hconn rfl
  refine ⟨rest, h1, _, h2, ?_⟩
  have hbar : 124 ∉ addrText w := by
    rcases CtlL.addrText_cases w with h | h <;> (rw [h]; decide)
  have := eprt_roundtrip (if w.v6 = true then .v6 else .v4) (addrText w) (w.listenPorts.head?.getD 0) hbar hp
  refine ⟨this.1, ?_⟩
  rw [this.2]
  cases w.v6 <;> rfl

/-- PORT likewise for IPv4; for an IPv6 control connection PORT cannot express the endpoint and is refused before
    anything is sent -/
theorem port_advertises_listening_socket (cmd : Bytes) (rs : Replies) (w : World) (hconn : w.connected = true)
    (hp : w.listenPorts.head?.getD 0 < 65536) :
    (w.v6 = false →
      ∃ rest, added (processActive false cmd rs) w =
          [Ev.dataSocket w.nextD, Ev.dataBind w.nextD (addrText w) 0 (w.listenPorts.head?.getD 0), Ev.dataListen w.nextD] ++ rest ∧
        ∃ line, (writes rest).head? = some (line ++ [CR, LF]) ∧ line.take 5 = str "PORT " ∧
          Spec.decodePortArg (line.drop 5) = some ([127, 0, 0, 1], w.listenPorts.head?.getD 0)) ∧
    (w.v6 = true → result (processActive false cmd rs) w = .throw ∧ writes (added (processActive false cmd rs) w) = []) := by
  constructor
  · intro hv6
    have haddr : addrText w = dotted 127 0 0 1 := by
      simp only [addrText, hv6, Bool.false_eq_true, if_false]
      decide
    obtain ⟨c, hc, ht, hdec⟩ := port_roundtrip 127 0 0 1 (w.listenPorts.head?.getD 0) (by omega) (by omega) (by omega)
      (by omega) hp
    have hl : activeLine false w = some c := by
      simp only [activeLine, Bool.false_eq_true, if_false, hv6, haddr]
      exact hc
    obtain ⟨rest, h1, h2⟩ := active_events false cmd rs w c hconn hl
    exact ⟨rest, h1, c, h2, ht, hdec⟩
  · intro hv6
    have hl : activeLine false w = none := by
      simp only [activeLine, Bool.false_eq_true, if_false, hv6, if_true]
      rfl
    have hrun : processActive false cmd rs w = (.throw, listenW w) := by rw [processActive_eq, hl]
    refine ⟨by simp [result, hrun], ?_⟩
    rw [DataL.added_of_trace _ _ [Ev.dataSocket w.nextD, Ev.dataBind w.nextD (addrText w) 0 (w.listenPorts.head?.getD 0),
      Ev.dataListen w.nextD] (by simp only [after, hrun]; rfl)]
    rfl

/-- a program that accepts at most one connection -/
private def AtMost1 {α} (m : M α) : Prop :=
  ∀ w, ∃ evs, (m w).2.trace = w.trace ++ evs ∧ (evs.filter isAccEv).length ≤ 1

private theorem filter_acc_of_pa {l : List Ev} (h : ∀ e ∈ l, Pa e) : l.filter isAccEv = [] := by
  rw [List.filter_eq_nil_iff]
  intro e he
  simp [h e he]

private theorem AtMost1.of_keeps {α} {m : M α} (h : CtlL.Keeps (Walk.Own World.ttype Pa) m) : AtMost1 m := by
  intro w
  obtain ⟨_, evs, ht, hp⟩ := h w
  exact ⟨evs, ht, by simp [filter_acc_of_pa hp]⟩

private theorem AtMost1.bind {α β} {m : M α} {f : α → M β} (hm : CtlL.Keeps (Walk.Own World.ttype Pa) m)
    (hf : ∀ a, AtMost1 (f a)) :
    AtMost1 (m >>= f) := by
  intro w
  obtain ⟨_, e1, t1, p1⟩ := hm w
  rw [CtlL.bind_apply]
  rcases hmw : m w with ⟨a | _, w1⟩
  · rw [hmw] at t1
    have t1' : w1.trace = w.trace ++ e1 := t1
    obtain ⟨e2, t2, p2⟩ := hf a w1
    refine ⟨e1 ++ e2, by rw [t2, t1', List.append_assoc], ?_⟩
    simpa [List.filter_append, filter_acc_of_pa p1] using p2
  · rw [hmw] at t1
    exact ⟨e1, t1, by simp [filter_acc_of_pa p1]⟩

private theorem AtMost1.accept {α} (a : α) : AtMost1 (dataAccept >>= fun _ => (pure a : M α)) := by
  intro w
  rw [CtlL.bind_apply]
  unfold dataAccept
  rcases hc : w.conn with _ | ⟨sock, acc⟩
  · exact ⟨[], by simp [getW, hc, throwE], by simp⟩
  · rcases acc with _ | l
    · exact ⟨[], by simp [getW, hc, throwE], by simp⟩
    · exact ⟨[.dataAccept l w.nextD], by simp [getW, hc, modifyW, emit, pure], Nat.le_refl 1⟩

private theorem activeTail_atMost1 (c cmd : Bytes) (rs : Replies) : AtMost1 (activeTail c cmd rs) := by
  unfold activeTail
  refine AtMost1.bind (processCommandInto_p pa_of_ctl _ _) fun x => ?_
  obtain ⟨r, rs1⟩ := x
  show AtMost1 (if r.isNegative = true then _ else _)
  split
  · exact AtMost1.of_keeps (CtlL.Keeps.pure _)
  refine AtMost1.bind (processCommandInto_p pa_of_ctl _ _) fun y => ?_
  obtain ⟨r2, rs2⟩ := y
  show AtMost1 (if r2.isNegative = true then _ else _)
  split
  · exact AtMost1.of_keeps (CtlL.Keeps.pure _)
  · exact AtMost1.accept _

/-- at most one connection is accepted per transfer, and only after both the set-up and the transfer command were
    answered non-negatively -/
theorem at_most_one_accept (eprt : Bool) (cmd : Bytes) (rs : Replies) (w : World) :
    ((added (processActive eprt cmd rs) w).filter fun | .dataAccept _ _ => true | _ => false).length ≤ 1 := by
  -- listening accepts nothing; the rest are the two commands and the accept
  have key : ∃ evs, (processActive eprt cmd rs w).2.trace = (listenW w).trace ++ evs ∧
      (evs.filter isAccEv).length ≤ 1 := by
    rw [processActive_eq]
    split
    · exact activeTail_atMost1 _ cmd rs (listenW w)
    · exact ⟨[], by simp, by simp⟩
  obtain ⟨evs, ht, hlen⟩ := key
  rw [DataL.added_of_trace _ _ ([.dataSocket w.nextD, .dataBind w.nextD (addrText w) 0 (w.listenPorts.head?.getD 0),
    .dataListen w.nextD] ++ evs) (by rw [after, ht]; simp [listenW])]
  exact hlen

end Ftp.Props.C06
