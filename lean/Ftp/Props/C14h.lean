import Ftp.Props.C14
import Ftp.Lemmas.History
/-
  C14 at the level of histories, with observers registered and unregistered between calls.
-/
namespace Ftp.Props.C14
open Ftp.Client Ftp.Session Ftp.Session.Hist

/-- what observer `o` is told about the events of a trace (the definition `toObs` of C14.lean) while it is registered -/
def expectedLog (o : Nat) : List Call → World → List Ev
  | [], _ => []
  | c :: rest, w =>
    (if o ∈ (c.before w).observers then (added c.op.run (c.before w)).filterMap (toObs o) else []) ++
      expectedLog o rest (c.after w)

/-- for every history of every length in which the environment may also register / unregister observers between calls
    (never the same observer twice): the log of an observer is exactly the transcript of the calls made while it was
    registered, in order, and nothing else -/
theorem history_log (o : Nat) (h : List Call) (w : World) (hfair : ∀ c ∈ h, c.fair)
    (hnodup : ∀ w' ∈ starts h w, w'.observers.Nodup) :
    (histAdded h w).filter (isObsOf o) = expectedLog o h w := by
  induction h generalizing w with
  | nil => rw [histAdded_nil]; rfl
  | cons c rest ih =>
    have hfr : ∀ c' ∈ rest, c'.fair := fun c' hc' => hfair c' (List.mem_cons_of_mem _ hc')
    have hn : (c.before w).observers.Nodup := hnodup _ (by rw [starts]; exact List.mem_cons_self)
    have ih' := ih (c.after w) hfr fun w' hw' => hnodup w' (by rw [starts]; exact List.mem_cons_of_mem _ hw')
    rw [histAdded_cons c rest hfair, List.filter_append, ih', expectedLog]
    congr 1
    split
    · exact log_is_transcript c.op (c.before w) o ‹_› hn
    · exact unregistered_is_silent c.op (c.before w) o ‹_›

/-- a history during which nobody touches the observer list: the log of a registered observer is the transcript of
    the whole history -/
theorem history_log_fixed (o : Nat) (h : List Call) (w : World) (hfair : ∀ c ∈ h, c.fair)
    (hkeep : ∀ c ∈ h, c.keepsObservers) (ho : o ∈ w.observers) (hn : w.observers.Nodup) :
    (histAdded h w).filter (isObsOf o) = (histAdded h w).filterMap (toObs o) :=
  have : TraceL.Mon fun _ δ _ => δ.filter (isObsOf o) = δ.filterMap (toObs o) :=
    ⟨fun _ => rfl, fun h1 h2 => by rw [List.filter_append, List.filterMap_append, h1, h2]⟩
  (history_grew (I := fun w' => w'.observers = w.observers)
    (G := fun _ δ _ => δ.filter (isObsOf o) = δ.filterMap (toObs o)) hfair
    (fun c hc w' hw' => ⟨(hkeep c hc w').trans hw', rfl⟩)
    (fun c _ w' hw' => ⟨(trace_grows c.op w').2.trans hw', _, (trace_grows c.op w').1,
      log_is_transcript c.op w' o (hw' ▸ ho) (hw' ▸ hn)⟩) rfl).1.2

end Ftp.Props.C14
