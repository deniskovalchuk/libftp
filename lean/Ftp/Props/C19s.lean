import Ftp.Generated.SourceFacts
import Ftp.Props.C19
/-
  C19, tie to the source by translation: the chain of comparisons of `get_command_from_string` as it is written in
  app/cmdline/src/command_parser.cpp *now* (regenerated into `Ftp.Generated.verbChain` on every run of the check) is the
  table the model and the theorems of C19.lean are about.
-/
namespace Ftp.Props.C19
open Ftp.Cmd

/-- the C++ enumerator of a command -/
def cppName : Command → String
  | .open_ => "open" | .mode => "mode" | .active => "active" | .passive => "passive" | .user => "user" | .cd => "cd"
  | .cdup => "cdup" | .ls => "ls" | .put => "put" | .get => "get" | .rename => "rename" | .pwd => "pwd" | .mkdir => "mkdir"
  | .rmdir => "rmdir" | .del => "del" | .stat => "stat" | .syst => "syst" | .type => "type" | .binary => "binary"
  | .ascii => "ascii" | .size => "size" | .noop => "noop" | .rhelp => "rhelp" | .logout => "logout" | .close => "close"
  | .help => "help" | .exit => "exit"

theorem cppName_eq_name (c : Command) : cppName c = c.name := by cases c <;> rfl

/-- distinct commands have distinct enumerators (so the comparison below loses nothing): the enumerator is the name, and
    the table finds the command back from its name -/
theorem cppName_injective (a b : Command) (h : cppName a = cppName b) : a = b := by
  rw [cppName_eq_name, cppName_eq_name] at h
  have ha := (verbTable_row _ (name_mem a)).2.2.2
  rw [show (a.name, a).1 = (b.name, b).1 from h, (verbTable_row _ (name_mem b)).2.2.2] at ha
  exact (Option.some.inj ha).symm

/-- the model's table is the source's chain: same strings, same enumerators, same order -/
theorem verb_table_is_the_sources : verbTable.map (fun p => (p.1, cppName p.2)) = Generated.verbChain := by
  decide +kernel

end Ftp.Props.C19
