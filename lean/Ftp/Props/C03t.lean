import Ftp.Props.C03o
import Ftp.Lemmas.ClientTlsDl
/-
  C03 on a TLS-protected session ("with or without TLS"): the download operation of the TLS layer of the model delivers
  exactly the payload, after a successful data-connection handshake.  Model: `Ftp.ClientTls.downloadT`.
-/
namespace Ftp.Props.C03
open Ftp.Client Ftp.ClientTls Ftp.Session Ftp.Props.C01 Ftp.Props.C11

-- the proof does not use `hconn0`, `hsil`, `hssl`, `hc421`
set_option linter.unusedVariables false in
/-- download over a protected session, end to end: the hypotheses of `download_delivers` on the plain part of the world, a
    session whose control channel is protected, a TLS context, and a data handshake that succeeds: the call returns the
    three replies, the sink holds exactly the payload (converted for ASCII type) appended to what it held, flushed once; the
    data-connection handshake is in the trace and no payload byte is read before it -/
theorem tls_download_delivers (path : Bytes) (w : WorldT) (s m c : WfReply) (payload : Bytes) (reads : List Nat)
    (more : List (Option Nat)) (rest : List SGroup)
    (hstep : InStep w.base []) (hconn0 : w.base.conn = none) (hpath : Endpoint.hasCrLf path = false)
    (hs : s.wf) (hm : m.wf) (hc : c.wf) (hsetup : SetupOk w.base s) (hmain : m.code < 400)
    (hsc : w.base.script = (⟨[s], none⟩ :: ⟨[m, c], some (.send payload)⟩ :: rest).map SGroup.enc)
    (hclose : ∀ b ∈ w.base.closeFails, b = false)
    (hseg : Segmentation payload reads) (hreads : w.base.dataReads = reads.map some ++ some 0 :: more)
    (hsink : w.base.sinkFailAt = none) (hsil : w.base.sinkSilent = false)
    (hctx : w.tlsCtx = true) (hssl : w.ctlSsl = true) (htls : w.ctlTls = true) (hpeer : w.peerAnswersCloseNotify = true)
    (hhs : w.hsOks.head? = some true) (hc421 : c.code ≠ 421) :
    ∃ rs, resultT (downloadT path) w = .ok rs ∧
      rs.list = [replyOf s, replyOf m, replyOf c] ∧
      (afterT (downloadT path) w).base.sink = w.base.sink ++ delivered w.base.ttype payload ∧
      (afterT (downloadT path) w).base.sinkFlushes = w.base.sinkFlushes + 1 ∧
      (afterT (downloadT path) w).base.conn = none ∧
      (∃ pre post d off, addedT (downloadT path) w = pre ++ EvT.dataTlsHandshake d off true :: post ∧
          (∀ e ∈ pre, isPayload e = false)) := by
  obtain ⟨hacc, hpass, hv6⟩ := hsetup
  have tok : D.TOk w := ⟨⟨htls, hpeer⟩, hctx, hhs⟩
  obtain ⟨w', P, d, o, Q, hrun, hsk, hfl, hcn, htr, hP⟩ := D.downloadT_run path w s m c payload reads more rest tok
    hstep hpath hs hm hc hacc hmain hpass hv6 hsc hclose hseg.1 hseg.2 hreads hsink
  refine ⟨((Replies.empty.append (replyOf s)).append (replyOf m)).append (replyOf c), by simp only [resultT, hrun],
    ?_, ?_, ?_, ?_, ⟨P, Q, d, o, ?_, ?_⟩⟩
  · simp [Replies.empty]
  · simp only [afterT, hrun]
    rw [hsk]
    cases w.base.ttype <;> rfl
  · simp only [afterT, hrun]
    exact hfl
  · simp only [afterT, hrun]
    exact hcn
  · simp only [addedT, afterT, hrun]
    rw [htr, List.drop_left]
  · intro e he
    exact hP e he

/-! ### non-vacuity: an EPSV download of "hello world" in three segments over a protected session -/

/-- `worldDl` of C03o behind a protected control channel, with a TLS context and a data handshake that succeeds -/
def worldDlT : WorldT :=
  { base := worldDl, tlsCtx := true, ctlSsl := true, ctlTls := true, hsOks := [true] }

private def sDl : WfReply := ⟨229, [⟨str "229 ok (|||5000|)", true⟩]⟩
private def mDl : WfReply := ⟨150, [⟨str "150 go", true⟩]⟩
private def cDl : WfReply := ⟨226, [⟨str "226 done", true⟩]⟩

private theorem sDl_wf : sDl.wf :=
  SessL.wf_single (by decide +kernel)
private theorem mDl_wf : mDl.wf :=
  SessL.wf_single (by decide +kernel)
private theorem cDl_wf : cDl.wf :=
  SessL.wf_single (by decide +kernel)

private theorem raws_dl :
    sDl.raw = str "229 ok (|||5000|)\r\n" ∧ mDl.raw = str "150 go\r\n" ∧ cDl.raw = str "226 done\r\n" := by
  decide +kernel

/-- the script of `worldDl` is the encoding of the three replies -/
private theorem script_dl :
    worldDl.script = (⟨[sDl], none⟩ :: ⟨[mDl, cDl], some (.send (str "hello world"))⟩ :: []).map SGroup.enc := by
  show _ = [Group.mk [sDl.raw] none, Group.mk [mDl.raw, cDl.raw] _]
  rw [raws_dl.1, raws_dl.2.1, raws_dl.2.2]
  rfl

/-- the theorem instantiated in `worldDlT`: all its hypotheses hold there -/
example : ∃ rs, resultT (downloadT (str "f")) worldDlT = .ok rs ∧
    rs.list = [replyOf sDl, replyOf mDl, replyOf cDl] ∧
    (afterT (downloadT (str "f")) worldDlT).base.sink = [] ++ delivered .binary (str "hello world") ∧
    (afterT (downloadT (str "f")) worldDlT).base.sinkFlushes = 0 + 1 ∧
    (afterT (downloadT (str "f")) worldDlT).base.conn = none ∧
    (∃ pre post d off, addedT (downloadT (str "f")) worldDlT = pre ++ EvT.dataTlsHandshake d off true :: post ∧
        (∀ e ∈ pre, isPayload e = false)) :=
  tls_download_delivers (str "f") worldDlT sDl mDl cDl (str "hello world") [5, 1, 5] [] []
    ⟨rfl, .inl rfl, by decide, fun _ h => by cases h⟩ rfl (by decide) sDl_wf mDl_wf cDl_wf
    ⟨by decide, fun _ => ⟨rfl, by decide⟩, fun h => by cases h⟩ (by decide) script_dl (fun _ h => by cases h)
    ⟨by decide, by decide⟩ rfl rfl rfl rfl rfl rfl rfl rfl (by decide)

/-- what the call leaves and appends in `worldDlT`, computed -/
example :
    (afterT (downloadT (str "f")) worldDlT).base.sink = str "hello world" ∧
    (afterT (downloadT (str "f")) worldDlT).base.sinkFlushes = 1 ∧
    addedT (downloadT (str "f")) worldDlT =
      [.ev true (.ctlWrite (str "EPSV\r\n")), .ev true .ctlReadLine, .ev true (.ctlReply 229 (str "229 ok (|||5000|)")),
       .ev true (.dataSocket 1), .ev true (.dataConnect 1 (str "127.0.0.1") 5000 true),
       .ev true (.ctlWrite (str "RETR f\r\n")), .ev true .ctlReadLine, .ev true (.ctlReply 150 (str "150 go")),
       .dataTlsHandshake 1 false true,
       .ev true (.dataRead 1 5), .ev true (.sinkWrite 5), .ev true (.dataRead 1 1), .ev true (.sinkWrite 1),
       .ev true (.dataRead 1 5), .ev true (.sinkWrite 5), .ev true (.dataRead 1 0), .ev true .sinkFlush,
       .dataTlsShutdown 1, .ev true (.dataShutdown 1), .ev true (.dataClose 1),
       .ev true .ctlReadLine, .ev true (.ctlReply 226 (str "226 done"))] := by
  decide +kernel

end Ftp.Props.C03
