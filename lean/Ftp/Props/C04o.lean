import Ftp.Props.C04
import Ftp.Props.C03o
/-
  C04 at the level of the whole operation: `upload_file` / `append_file` (STOR, STOU, APPE) as the caller sees them.
-/
namespace Ftp.Props.C04
open Ftp.Client Ftp.Session Ftp.Props.C01
open Ftp.Client.SessL Ftp.Client.OpsL Ftp.Client.CtlL

/-- what the peer must have received after an upload of `data` with the given transfer type (C05 for ASCII) -/
def transmitted (t : TType) (data : Bytes) : Bytes :=
  match t with
  | .binary => data
  | .ascii => Spec.ulSpec data

private theorem dataSend_peer (w : World) (hok : ∀ b ∈ w.blockOks, b = true) (hsrc : w.srcFailAt = none) :
    ∃ w2, dataSend false w.ttype w = (.ok (), w2) ∧
      w2.peerGot = w.peerGot ++ (match w.ttype with | .binary => w.src.data | .ascii => Spec.ulSpec w.src.data) ∧
      Rdat w w2 ∧ Rcf w w2 := by
  cases ht : w.ttype
  · obtain ⟨h1, h2, _⟩ := binary_transmits_exactly w hok hsrc
    have hrun := run_of_result h1
    exact ⟨_, hrun, h2, Rdat.of_move ((Walk.dataSend_own _ _).of_eq hrun), Rcf.of_move ((Walk.dataSend_own _ _).of_eq hrun)⟩
  · obtain ⟨h1, h2⟩ := ascii_transmits_converted w hok hsrc
    have hrun := run_of_result h1
    exact ⟨_, hrun, h2, Rdat.of_move ((Walk.dataSend_own _ _).of_eq hrun), Rcf.of_move ((Walk.dataSend_own _ _).of_eq hrun)⟩

-- the proof does not use `hconn0`, `hverb`
set_option linter.unusedVariables false in
/-- upload, end to end: for every source content, every pattern of short reads of the source, every verb (STOR / STOU /
    APPE), every well-formed reply text and all four methods, in a session that is in step: the call returns exactly the
    three replies, the peer has received exactly the source bytes (converted for ASCII type), the source is exhausted,
    the data connection was shut down and closed before the completion reply was read, no descriptor is left and the
    session is in step again (unless the completion reply was 421) -/
theorem upload_transmits (verb : String) (path : Bytes) (w : World) (s m c : WfReply) (act : Option DataAct)
    (rest : List SGroup)
    (hstep : InStep w []) (hconn0 : w.conn = none) (hpath : Endpoint.hasCrLf path = false)
    (hverb : Endpoint.hasCrLf (str verb) = false)
    (hs : s.wf) (hm : m.wf) (hc : c.wf) (hsetup : C03.SetupOk w s) (hmain : m.code < 400)
    (hsc : w.script = (⟨[s], none⟩ :: ⟨[m, c], act⟩ :: rest).map SGroup.enc)
    (hclose : ∀ b ∈ w.closeFails, b = false)
    (hok : ∀ b ∈ w.blockOks, b = true) (hsrc : w.srcFailAt = none) :
    ∃ rs, result (Op.upload verb path false).run w = .ok (.replies rs) ∧
      rs.list = [replyOf s, replyOf m, replyOf c] ∧
      (after (Op.upload verb path false).run w).peerGot = w.peerGot ++ transmitted w.ttype w.src.data ∧
      (after (Op.upload verb path false).run w).conn = none ∧
      (∃ d pre post, added (Op.upload verb path false).run w = pre ++ Ev.dataShutdown d :: Ev.dataClose d :: post ∧
          Ev.ctlReply c.code c.text ∈ post ∧ (∀ e ∈ post, ∀ d' n, e ≠ Ev.dataWrite d' n)) ∧
      (c.code ≠ 421 → InStep (after (Op.upload verb path false).run w) []) := by
  obtain ⟨hacc, hpass, hv6⟩ := hsetup
  obtain ⟨w1, d, a, hcdc, r1⟩ := cdc_accepted (str verb ++ [SP] ++ path) Replies.empty w s m [c] act rest hstep hs hm
    (fun r hr => by rw [List.mem_singleton.mp hr]; exact hc) hacc hmain hpass hv6 hsc
  obtain ⟨u1, _, _, _, _, _, u7, u8, u9, u10⟩ := Rusr.of_setup r1.step.setup
  obtain ⟨evs1, ht1, _⟩ := r1.step.2
  obtain ⟨w2, hmv, f1, hdat, hcf⟩ := dataSend_peer w1 (by rw [u7]; exact hok) (u9.trans hsrc)
  obtain ⟨evs2, ht2, _⟩ := hdat.2
  obtain ⟨w3, hfin, hsy, hc3, hconn3, ⟨_, _, _, _, _, _, _, _, _, v10⟩, t3⟩ := finish_ok _ w2 c d a
    (hdat.connected.trans r1.connected) (sync_of_dat hdat r1.sync) (hcf.1.trans r1.conn)
    (by rw [hcf.2, r1.closeFails]; exact hclose)
  have hul := xfer_ready verb (some path) (moveBody false (dataSend false)) id w w1 w3 _ _ _
    (CtlL.mkCmd_succ _ _ _ hpath) hcdc (moveBody_ok false (dataSend false) _ _ w1 w2 w3 hmv hfin)
  rw [destroyW_done w3 hconn3] at hul
  have hop : (Op.upload verb path false).run w =
      (.ok (.replies (((Replies.empty.append (replyOf s)).append (replyOf m)).append (replyOf c))),
        { w3 with conn := none }) := by
    simp only [Op.run, upload_eq]
    rw [DataL.bind_ok hul]
    rfl
  refine ⟨((Replies.empty.append (replyOf s)).append (replyOf m)).append (replyOf c), by simp only [result, hop],
    ?_, ?_, ?_, ?_, ?_⟩
  · simp [Replies.empty]
  · simp only [after, hop]
    rw [v10, f1, u1, u8, u10]
    cases w.ttype <;> rfl
  · simp only [after, hop]
  · have htr : (after (Op.upload verb path false).run w).trace = w.trace ++ ((evs1 ++ evs2) ++
        Ev.dataShutdown d :: Ev.dataClose d :: (a.toList.map Ev.dataClose ++ replyEvs w2.observers c.code c.text)) := by
      simp only [after, hop, t3, ht2, ht1, List.append_assoc, List.cons_append]
    refine ⟨d, evs1 ++ evs2, _, DataL.added_of_trace _ _ _ htr, ?_, ?_⟩
    · simp [replyEvs]
    · intro e he d' n hn
      subst hn
      rcases List.mem_append.mp he with he | he
      · obtain ⟨x, _, hx⟩ := List.mem_map.mp he
        cases hx
      · cases replyEvs_quiet _ _ _ _ he
  · intro h421
    simp only [after, hop]
    exact ⟨hc3 h421, hsy⟩

end Ftp.Props.C04
