import Ftp.Generated.ClientFacts
/-
  C02, tie to the source by translation: the two places where a call reads a second reply for one command - the 220 that
  follows a 120 greeting, the completion reply that follows a 426 answer to ABOR - are triggered in the model by the very
  codes src/client.cpp compares with now (tools/gen_source_facts.py, re-run on every check).
-/
namespace Ftp.Props.C02
open Ftp.Client

/-- `process_abort` reads one more reply exactly after the code the source compares with -/
theorem abort_reads_second_reply_on_the_sources_code (rs : Replies) :
    processAbort rs = (do
      let c ← mkCmd "ABOR" none
      let (r, rs) ← processCommandInto c rs
      if r.code == Generated.abortSecondReplyAfter then
        let (_, rs) ← recvInto rs
        pure rs
      else pure rs) := rfl

/-- `connect` reads the greeting that follows a preliminary reply exactly after the code the source compares with -/
theorem connect_reads_second_greeting_on_the_sources_code (host : Bytes) (port : Nat) (cred : Option (Bytes × Bytes)) :
    connect host port cred = (do
      match cred with
      | some (u, p) => let _ ← mkCmd "USER" (some u); let _ ← mkCmd "PASS" (some p); pure ()
      | none => pure ()
      let w0 ← getW
      if w0.connected then
        emit .ctlClose
        modifyW fun w => { w with connected := false }
      modifyW fun w =>
        let g : Group := match w.script with
          | g :: _ => g
          | [] => { raws := [] }
        { w with ctl := {}, connected := true, script := w.script.tail,
                 net := { w.net with stream := g.raws.flatten } }
      emit (.ctlConnect host port)
      forObservers (fun o => .obsConnected o host port)
      let (r, rs) ← recvInto Replies.empty
      let (r, rs) ← if r.code == Generated.greetingPreliminary then recvInto rs else pure (r, rs)
      if r.isNegative then pure rs
      else
        match cred with
        | some (u, p) => let (_, rs) ← processLogin u p rs; pure rs
        | none => pure rs) := rfl

/-- no other member function of ftp::client compares a reply code with a constant -/
theorem second_reply_sites_are_the_sources :
    (Generated.comparedCodes.filter fun fc => fc.1 ≠ "rename" ∧ fc.1 ≠ "process_login") =
      [("connect", [120]), ("process_abort", [426])] := by decide

end Ftp.Props.C02
