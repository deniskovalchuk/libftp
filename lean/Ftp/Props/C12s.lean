import Ftp.Generated.SourceFacts
import Ftp.Props.C12
/-
  C12, tie to the source by translation: "no further block (at most 8192 bytes)" - both block buffers of
  src/data_connection.cpp have that size now.
-/
namespace Ftp.Props.C12

theorem block_sizes_are_the_sources : Generated.recvBlock = 8192 ∧ Generated.sendBlock = 8192 := by decide

end Ftp.Props.C12
