import Ftp.Generated.SourceFacts
import Ftp.Props.C15
/-
  C15, tie to the source by translation: the thresholds written in src/reply.cpp now are those of the model's classes.
-/
namespace Ftp.Props.C15

theorem class_thresholds_are_the_sources (r : Reply) :
    r.isPositive = (r.code != unspecified && decide (r.code < Generated.positiveBelow)) ∧
    r.isNegative = (r.code != unspecified && decide (r.code ≥ Generated.negativeFrom)) ∧
    r.isIntermediate = (r.code != unspecified && decide (r.code ≥ Generated.intermediateFrom) &&
                        decide (r.code < Generated.intermediateBelow)) := by
  have h1 : Generated.positiveBelow = 400 := by decide
  have h2 : Generated.negativeFrom = 400 := by decide
  have h3 : Generated.intermediateFrom = 300 := by decide
  have h4 : Generated.intermediateBelow = 400 := by decide
  rw [h1, h2, h3, h4]
  exact ⟨rfl, rfl, rfl⟩

end Ftp.Props.C15
