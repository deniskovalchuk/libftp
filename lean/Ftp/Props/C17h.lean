import Ftp.Props.C17
import Ftp.Lemmas.History
/-
  C17 at the level of histories: the number of descriptors the client holds does not grow with the number of operations.
-/
namespace Ftp.Props.C17
open Ftp.Client Ftp.Session Ftp.Session.Hist

/-- the accounting of a whole history, and of every point between two of its calls (by `history_grew`, the induction
    over the list of calls) -/
theorem history_acct (h : List Call) (w : World) (hfair : ∀ c ∈ h, c.fair) (h0 : w.conn = none) :
    ((runHistory h w).conn = none ∧ Acct w (histAdded h w) (runHistory h w)) ∧
    ∀ w' ∈ starts h w, w'.conn = none ∧ Acct w (w'.trace.drop w.trace.length) w' :=
  history_grew (I := fun w => w.conn = none) hfair
    (fun c hc w hw => have e := hfair c hc w
      ⟨e.conn.trans hw, by rw [← e.nextD]; exact Nat.le_refl _, fun _ => by rw [← e.conn]; rfl, List.nodup_nil,
        fun _ hd => nomatch hd⟩)
    (fun c _ w hw => ⟨(run_inv c.op w hw).2, (run_inv c.op w hw).1⟩) h0

/-- for every history of API calls, of every length, whatever the environment does between and during the calls
    (any server behaviour, any connect / read / write / close result, failing user streams, cancellation), returned or
    thrown: no data_connection object survives, every data or listening descriptor opened anywhere in the history has
    been closed exactly once by the end of the call that opened it, and no descriptor number is used twice -/
theorem history_balanced (h : List Call) (w : World) (hfair : ∀ c ∈ h, c.fair) (h0 : w.conn = none) :
    (runHistory h w).conn = none ∧
    (opened (histAdded h w)).Perm (closed (histAdded h w)) ∧
    (opened (histAdded h w)).Nodup :=
  have := (history_acct h w hfair h0).1
  ⟨this.1, this.2.balanced h0 this.1⟩

/-- ... at every point between two calls, not only at the end -/
theorem history_balanced_everywhere (h : List Call) (w : World) (hfair : ∀ c ∈ h, c.fair) (h0 : w.conn = none) :
    ∀ w' ∈ starts h w, w'.conn = none ∧
      (opened (w'.trace.drop w.trace.length)).Perm (closed (w'.trace.drop w.trace.length)) := fun w' hw' =>
  have := (history_acct h w hfair h0).2 w' hw'
  ⟨this.1, (this.2.balanced h0 this.1).1⟩

private def refusedDownload : Call where
  env w := { w with listenPorts := [50000], script := [{ raws := [str "200 ok\r\n"] }, { raws := [str "550 no\r\n"] }] }
  op := .download (str "f") false

private def noop : Call where
  env w := { w with script := [{ raws := [str "200 ok\r\n"] }] }
  op := .simple "NOOP" none

/-- non-vacuity: a history of three calls (refused active-mode download, simple command, refused download again - in
    active mode as well: the transfer mode is a member of the client, which the environment cannot change) -/
example : ∃ h : List Call, h.length = 3 ∧ (∀ c ∈ h, c.fair) ∧
    (opened (histAdded h { mode := .active, ttype := .binary, rfc := true, connected := true })).length ≥ 1 := by
  refine ⟨[refusedDownload, noop, refusedDownload], rfl, ?_, by decide +kernel⟩
  intro c hc
  simp only [List.mem_cons, List.not_mem_nil, or_false] at hc
  rcases hc with rfl | rfl | rfl <;> exact fun w => ⟨rfl, rfl, rfl, rfl, rfl, rfl, rfl, rfl, rfl⟩

end Ftp.Props.C17
