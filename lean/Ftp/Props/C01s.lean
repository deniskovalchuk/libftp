import Ftp.Generated.SourceFacts
import Ftp.Props.C01
/-
  C01, tie to the source by translation: the line-length limit passed to read_line in src/control_connection.cpp now is
  the limit of the model's reader.
-/
namespace Ftp.Props.C01

theorem line_limit_is_the_sources : Reader.maxLine = Generated.ctlMaxLine := by decide

end Ftp.Props.C01
