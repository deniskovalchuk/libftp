import Ftp.Lemmas.ClientCtl
/-
  C09 (client level) - one command line per protocol step; caller text cannot inject commands.
-/
namespace Ftp.Props.C09
open Ftp.Client Ftp.Session Ftp.Endpoint Ftp.Client.CtlL

/-- the caller-supplied texts of a call -/
def textArgs : Op → List Bytes
  | .connect _ _ (some (u, p)) => [u, p]
  | .login u p => [u, p]
  | .simple _ (some a) => [a]
  | .rename a b => [a, b]
  | .download p _ => [p]
  | .upload _ p _ => [p]
  | .list (some p) _ => [p]
  | _ => []

/-- the verbs are the library's own constants -/
def verbOk : Op → Prop
  | .simple v _ => hasCrLf (str v) = false
  | .upload v _ _ => hasCrLf (str v) = false
  | _ => True

/-- every write of every call, in every state, is exactly one line: some text free of CR and LF followed by a single
    CR LF -/
theorem every_write_is_one_line (op : Op) (w : World) (hv : verbOk op) :
    ∀ b ∈ writes (added op.run w), ∃ line, b = line ++ [CR, LF] ∧ hasCrLf line = false := by
  have hv' : Walk.OpVerbOk (fun c => OneLine (c ++ CRLF)) op := by
    cases op <;> first | exact .inr hv | trivial
  intro b hb
  exact added_of_rt (run_rt (fun c hc => ⟨c, rfl, hc⟩) op hv') w _ (mem_writes.mp hb) b rfl

/-! ### a call with CR or LF in an argument throws before anything happens -/

private theorem simple_first_write (v : String) (a : Bytes) (w : World) (ha : hasCrLf a = false) (hc : w.connected = true) :
    ∃ rest, writes ((simple v (some a) w).2.trace.drop w.trace.length) = (str v ++ [SP] ++ a ++ CRLF) :: rest := by
  have h2 := SessL.ctlSend_conn (str v ++ [SP] ++ a) w hc
  generalize SessL.sendW (str v ++ [SP] ++ a) w = w2 at h2
  obtain ⟨e1, t1, a1, _⟩ := ctlSend_ext h2
  obtain ⟨_, e2, t2, _⟩ := Walk.ctlRecv_own w2
  have e : (simple v (some a) w).2 = (ctlRecv w2).2 := by
    unfold simple processCommand
    simp only [bind_apply, mkCmd_succ v a w ha, h2]
  rw [e, t2, t1, List.append_assoc, List.drop_left, writes_append, a1]
  exact ⟨_, rfl⟩

private theorem mkCmd_fail (v : String) (a : Bytes) (w : World) (ha : hasCrLf a = true) :
    mkCmd v (some a) w = (.throw, w) := by
  unfold mkCmd makeCommand
  simp only [ha, if_true]
  rfl

private theorem mkCmd_cases (v : String) (a : Option Bytes) (w : World) :
    mkCmd v a w = (.throw, w) ∨ ∃ c, mkCmd v a w = (.ok c, w) := by
  unfold mkCmd
  cases makeCommand (str v) a with
  | none => exact .inl rfl
  | some c => exact .inr ⟨c, rfl⟩

private theorem bind_fail {α β} {m : M α} {w : World} (f : α → M β) (h : m w = (.throw, w)) :
    (m >>= f) w = (.throw, w) := by
  rw [bind_apply, h]

private theorem two_mk_fail {α} (v1 v2 : String) {a b x : Bytes} (f : Bytes → Bytes → M α) (w : World)
    (hx : x ∈ [a, b]) (h : hasCrLf x = true) :
    (mkCmd v1 (some a) >>= fun c1 => mkCmd v2 (some b) >>= fun c2 => f c1 c2) w = (.throw, w) := by
  rcases mkCmd_cases v1 (some a) w with h1 | ⟨c, h1⟩
  · exact bind_fail _ h1
  · rw [bind_apply, h1]
    simp only [List.mem_cons, List.not_mem_nil, or_false] at hx
    rcases hx with rfl | rfl
    · rw [mkCmd_fail v1 x w h] at h1; cases h1
    · exact bind_fail _ (mkCmd_fail v2 x w h)

private theorem scope_fail {α} (v : String) (a : Bytes) (f : Bytes → M α) (w : World) (h : hasCrLf a = true)
    (hconn : w.conn = none) : withScope (mkCmd v (some a) >>= f) destroyConn w = (.throw, w) := by
  unfold withScope
  rw [bind_fail f (mkCmd_fail v a w h)]
  simp only [SessL.destroyConn_eq, SessL.destroyW, hconn]

private theorem run_rejects (op : Op) (w : World) (h : ∃ a ∈ textArgs op, hasCrLf a = true) (hconn : w.conn = none) :
    op.run w = (.throw, w) := by
  obtain ⟨a, ha, hbad⟩ := h
  -- every call makes its command lines first; the binds around a program that throws at once throw at once
  cases op with
  | connect hst p c =>
    rcases c with _ | ⟨u, pw⟩
    · simp [textArgs] at ha
    · refine bind_fail _ ?_
      rw [SessL.connect_eq]
      exact bind_fail _ (two_mk_fail "USER" "PASS" (fun _ _ => pure ()) w ha hbad)
  | login u p => exact bind_fail _ (bind_fail _ (two_mk_fail "USER" "PASS" _ w ha hbad))
  | logout | setType _ | disconnect _ => simp [textArgs] at ha
  | simple v arg =>
    rcases arg with _ | x
    · simp [textArgs] at ha
    · obtain rfl := List.mem_singleton.mp ha
      exact bind_fail _ (bind_fail _ (mkCmd_fail v a w hbad))
  | rename x y => exact bind_fail _ (two_mk_fail "RNFR" "RNTO" _ w ha hbad)
  | download p cb =>
    obtain rfl := List.mem_singleton.mp ha
    exact bind_fail _ (scope_fail _ a _ w hbad hconn)
  | upload v p cb =>
    obtain rfl := List.mem_singleton.mp ha
    exact bind_fail _ (scope_fail _ a _ w hbad hconn)
  | list p n =>
    rcases p with _ | x
    · simp [textArgs] at ha
    · obtain rfl := List.mem_singleton.mp ha
      exact bind_fail _ (scope_fail _ a _ w hbad hconn)

/-- the counterexample to `crlf_argument_rejected` as stated (for every `w`) -/
private theorem crlf_argument_rejected_counterexample :
    let w : World := { mode := .passive, ttype := .binary, rfc := true, conn := some { sock := some 3 } }
    let op : Op := .download (str "a\r\nDELE b") false
    (∃ a ∈ textArgs op, hasCrLf a = true) ∧ added op.run w = [.dataClose 3] := by decide

/-- a call whose caller text contains CR or LF is rejected with an error before anything is sent (and before the
    connection is opened); `w.conn = none`: no data connection object of an earlier call is alive (C17.balanced: none
    ever survives a call) -/
theorem crlf_argument_rejected (op : Op) (w : World) (h : ∃ a ∈ textArgs op, hasCrLf a = true) (hconn : w.conn = none) :
    result op.run w = .throw ∧ added op.run w = [] := by
  have e := run_rejects op w h hconn
  unfold result added after
  rw [e]
  exact ⟨rfl, by simp⟩

/-- caller text free of CR and LF is transmitted unchanged: the first command of a simple call is verb SP text -/
theorem text_unchanged (v : String) (a : Bytes) (w : World) (ha : hasCrLf a = false) (hc : w.connected = true) :
    (writes (added (Op.simple v (some a)).run w)).head? = some (str v ++ [SP] ++ a ++ [CR, LF]) := by
  obtain ⟨rest, h⟩ := simple_first_write v a w ha hc
  have e : after (Op.simple v (some a)).run w = (simple v (some a) w).2 := map_apply (simple v (some a)) Out.reply w
  unfold added
  rw [e, h]
  rfl

end Ftp.Props.C09
