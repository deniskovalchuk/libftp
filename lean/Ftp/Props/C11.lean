import Ftp.Lemmas.ClientTls
/-
  C11 - with TLS configured nothing but AUTH TLS travels in clear text.
  Model: `Ftp.ClientTls` (connect / AUTH TLS / handshake, login with PBSZ and PROT, data-connection handshake
  after the transfer command is accepted, logout / disconnect) on top of the plain client model.
-/
namespace Ftp.Props.C11
open Ftp.Client Ftp.ClientTls

/-- the calls made between connect and logout / disconnect -/
inductive SessionOp
  | login (u p : Bytes)
  | simple (verb : String) (arg : Option Bytes)
  | download (path : Bytes)
  | upload (verb : String) (path : Bytes)
  | list (path : Option Bytes) (names : Bool)

def SessionOp.run : SessionOp → MT Unit
  | .login u p => do let _ ← loginT u p; pure ()
  | .simple v a => do let _ ← lift (Client.simple v a); pure ()
  | .download p => do let _ ← downloadT p; pure ()
  | .upload v p => do let _ ← uploadT v p; pure ()
  | .list p n => do let _ ← fileListT p n; pure ()

/-! `allWrites` and two filters written out in the statements below, and their copies in `Ftp.ClientTls.L` (used by the
    helper lemmas) agree -/

private theorem allWrites_eq (tr : List EvT) : allWrites tr = L.allWrites tr := rfl
private theorem keep_eq :
    (fun e : EvT => match e with | .ev _ (.obsReply _ _ _) | .ev _ (.dataAccept _ _) => false | _ => true) = L.keepT := by
  funext e
  cases e with
  | ev t e0 => cases e0 <;> rfl
  | _ => rfl

/-- every call of a session keeps every relation its single steps keep: the lifted programs and the TLS-only steps
    on the data connection -/
theorem op_keeps {R : WorldT → WorldT → Prop} [L.IsPreT R] (A : L.AtomsS R) (op : SessionOp) : L.KeepsT R op.run := by
  cases op with
  | login u p => exact .bind (L.keepsT_loginT (fun _ _ => A.lift _) (fun _ _ => A.lift _) u p) fun _ => .pure _
  | simple v a => exact .bind (A.lift _) fun _ => .pure _
  | download p => exact .bind (L.keepsT_downloadT A p) fun _ => .pure _
  | upload v p => exact .bind (L.keepsT_uploadT A v p) fun _ => .pure _
  | list p n => exact .bind (L.keepsT_fileListT A p n) fun _ => .pure _

theorem op_tag (op : SessionOp) : L.AllT L.TagOk op.run := op_keeps L.atoms_tag op

theorem op_shape (op : SessionOp) (w : WorldT) :
    L.SatT op.run w (fun r _ evs => L.Shape w (r = .throw) evs) := by
  cases op with
  | login u p => exact L.shape_discard (L.shape_q3 (L.loginT_q3 u p) w)
  | simple v a => exact L.shape_discard (L.shape_q3 (L.q3_lift (L.simple_np v a)) w)
  | download p => exact L.shape_discard (L.downloadT_shape p w)
  | upload v p => exact L.shape_discard (L.uploadT_shape v p w)
  | list p n => exact L.shape_discard (L.fileListT_shape p n w)

theorem op_tag_added (op : SessionOp) (w : WorldT) :
    L.cfg (afterT op.run w) = L.cfg w ∧ ∀ e ∈ addedT op.run w, L.TagOk (L.cfg w) e := (op_tag op w).added

theorem op_shape_added (op : SessionOp) (w : WorldT) :
    L.Shape w (resultT op.run w = .throw) (addedT op.run w) := (op_shape op w).added

private theorem connect_added (host : Bytes) (port : Nat) (cred : Option (Bytes × Bytes)) (w : WorldT)
    (h : w.tlsCtx = true) :
    L.ConnPost (resultT (connectT host port cred) w) (afterT (connectT host port cred) w)
      (addedT (connectT host port cred) w) := (L.connectT_spec host port cred w h).added

/-- connecting with a TLS context - whatever the server answers, whether or not the handshake succeeds, with or
    without credentials: the only command line ever written in clear text is `AUTH TLS` -/
theorem connect_plaintext_is_auth_only (host : Bytes) (port : Nat) (cred : Option (Bytes × Bytes)) (w : WorldT)
    (h : w.tlsCtx = true) :
    plainWrites (addedT (connectT host port cred) w) = [] ∨ plainWrites (addedT (connectT host port cred) w) = [AUTH] :=
  L.connPost_plain (connect_added host port cred w h)

/-- ... and it is the first command of the connection -/
theorem auth_is_first (host : Bytes) (port : Nat) (cred : Option (Bytes × Bytes)) (w : WorldT) (h : w.tlsCtx = true) :
    allWrites (addedT (connectT host port cred) w) = [] ∨ (allWrites (addedT (connectT host port cred) w)).head? = some AUTH := by
  rw [allWrites_eq]
  exact L.connPost_first (connect_added host port cred w h)

/-- after `AUTH TLS` the next step of the client is the TLS handshake - or, when the server refused, nothing at all:
    no credentials, no further command -/
theorem after_auth_handshake_or_stop (host : Bytes) (port : Nat) (cred : Option (Bytes × Bytes)) (w : WorldT)
    (h : w.tlsCtx = true) :
    ((∀ ok, EvT.ctlTlsHandshake ok ∉ addedT (connectT host port cred) w) →
        allWrites (addedT (connectT host port cred) w) = [] ∨ allWrites (addedT (connectT host port cred) w) = [AUTH]) ∧
    (EvT.ctlTlsHandshake false ∈ addedT (connectT host port cred) w →
        resultT (connectT host port cred) w = .throw ∧ allWrites (addedT (connectT host port cred) w) = [AUTH] ∧
        (addedT (connectT host port cred) w).getLast? = some (EvT.ctlTlsHandshake false)) := by
  rw [allWrites_eq]
  exact ⟨fun hn => L.connPost_stop (connect_added host port cred w h) hn,
    fun hm => L.connPost_fail (connect_added host port cred w h) hm⟩

/-- a successful connect with a TLS context leaves the control channel protected -/
theorem connect_protects (host : Bytes) (port : Nat) (cred : Option (Bytes × Bytes)) (w : WorldT) (h : w.tlsCtx = true)
    (hs : EvT.ctlTlsHandshake true ∈ addedT (connectT host port cred) w) :
    (afterT (connectT host port cred) w).ctlTls = true :=
  L.connPost_protects (connect_added host port cred w h) hs

/-- between connect and logout / disconnect every call of a protected session writes every command inside TLS, and
    leaves the session protected -/
theorem session_stays_protected (op : SessionOp) (w : WorldT) (h : w.ctlTls = true) :
    plainWrites (addedT op.run w) = [] ∧ (afterT op.run w).ctlTls = true := by
  obtain ⟨hc, ht⟩ := op_tag_added op w
  refine ⟨?_, ?_⟩
  · exact L.tag_plain ht h
  · have : (afterT op.run w).ctlTls = w.ctlTls := congrArg (fun k => k.2.2) hc
    rw [this, h]

/-- a history of calls on one session: each call starts in the state the previous one left, whether it returned or threw -/
def runAll : List SessionOp → WorldT → WorldT
  | [], w => w
  | op :: ops, w => runAll ops (afterT op.run w)

/-- a history keeps every relation its calls keep -/
theorem runAll_keeps {R : WorldT → WorldT → Prop} [L.IsPreT R] (h : ∀ op : SessionOp, L.KeepsT R op.run)
    (ops : List SessionOp) (w : WorldT) : R w (runAll ops w) := by
  induction ops generalizing w with
  | nil => exact L.IsPreT.refl w
  | cons op ops ih => exact L.IsPreT.trans (h op w) (ih _)

/-- **histories**: from a protected session, any number of calls - logins, simple commands, downloads, uploads, listings,
    in any order, returned or thrown - never writes a command in clear text, and the session is still protected at the
    end (induction over the list of calls) -/
theorem history_stays_protected (ops : List SessionOp) (w : WorldT) (h : w.ctlTls = true) :
    (∃ evs, (runAll ops w).trace = w.trace ++ evs ∧ plainWrites evs = []) ∧ (runAll ops w).ctlTls = true := by
  obtain ⟨evs, ht, hc, he⟩ := runAll_keeps (R := L.RT L.TagOk) (op_keeps L.atoms_tag) ops w
  exact ⟨⟨evs, ht, L.tag_plain he h⟩, (congrArg (fun k => k.2.2) hc).trans h⟩

private theorem op_broken (op : SessionOp) : L.AllB op.run := op_keeps L.atoms_b op

/-- when the TLS handshake of the control connection failed (`connect` threw: the socket has its SSL layer,
    `ctlSsl = true`, but no session, `ctlTls = false`) nothing is sent any more: whatever the call, whatever the
    server would answer and whatever the oracles, no command line is written - neither in clear text nor inside TLS.
    (The call stops at its first command write, after the observers were told about the request, and throws.) -/
theorem broken_session_sends_nothing (op : SessionOp) (w : WorldT) (hs : w.ctlSsl = true) (ht : w.ctlTls = false) :
    allWrites (addedT op.run w) = [] := by
  rw [allWrites_eq]
  exact ((op_broken op) w ⟨hs, ht⟩).added.2

/-- ... and the session stays in that state: the next call sends nothing either -/
theorem broken_session_stays_broken (op : SessionOp) (w : WorldT) (hs : w.ctlSsl = true) (ht : w.ctlTls = false) :
    (afterT op.run w).ctlSsl = true ∧ (afterT op.run w).ctlTls = false :=
  ((op_broken op) w ⟨hs, ht⟩).added.1

/-- the graceful disconnect of such a session does not send QUIT (nor anything else) -/
theorem broken_session_quit_not_sent (w : WorldT) (hs : w.ctlSsl = true) (ht : w.ctlTls = false) :
    allWrites (addedT (disconnectT true) w) = [] := by
  rw [allWrites_eq]
  exact (L.disconnectT_nw w ⟨hs, ht⟩).added

/-- ... it throws at the write of QUIT, as `client::disconnect` does when `process_command` throws: the connection
    is not closed and the SSL layer stays in place (`disconnectT false` is the way out) -/
theorem broken_session_quit_throws (w : WorldT) (hs : w.ctlSsl = true) (ht : w.ctlTls = false) :
    resultT (disconnectT true) w = .throw ∧
      (afterT (disconnectT true) w).ctlSsl = true ∧ (afterT (disconnectT true) w).ctlTls = false :=
  L.disconnectT_broken w ⟨hs, ht⟩

/-- the data connection's handshake takes place before the first payload byte moves: no payload event precedes it, and
    with a TLS context no payload event happens in a call that has no successful data handshake -/
theorem data_handshake_before_payload (op : SessionOp) (w : WorldT) (h : w.tlsCtx = true) :
    ∀ pre e post, addedT op.run w = pre ++ e :: post → isPayload e = true →
      ∃ d offered, EvT.dataTlsHandshake d offered true ∈ pre := by
  intro pre e post hs hp
  exact L.shape_before_payload (op_shape_added op w) h hs hp

/-- ... and after the transfer command was accepted: the event before the handshake (observer notifications and the
    accept of an active-mode connection aside) is the framing of a non-negative reply -/
theorem data_handshake_after_acceptance (op : SessionOp) (w : WorldT) (pre post : List EvT) (d : Nat) (offered ok : Bool)
    (hsplit : addedT op.run w = pre ++ EvT.dataTlsHandshake d offered ok :: post) :
    ∃ tls c t pre', c < 400 ∧
      pre.filter (fun e => match e with | .ev _ (.obsReply _ _ _) | .ev _ (.dataAccept _ _) => false | _ => true) =
        pre' ++ [EvT.ev tls (.ctlReply c t)] := by
  rw [keep_eq]
  exact L.shape_after_acceptance (op_shape_added op w) hsplit

/-- a failed data handshake is reported and no payload moves -/
theorem data_handshake_failure_stops (op : SessionOp) (w : WorldT) (d : Nat) (offered : Bool)
    (hf : EvT.dataTlsHandshake d offered false ∈ addedT op.run w) :
    resultT op.run w = .throw ∧ ∀ e ∈ addedT op.run w, isPayload e = false := by
  obtain ⟨h1, h2⟩ := L.shape_failure (op_shape_added op w) hf
  exact ⟨h1, h2⟩

/-- a download whose data stream ends in an error (the TLS layer reports a missing close-notify as an error, not as
    end-of-file; see C03.read_error_is_reported for the read loop itself) is never returned as a completed transfer:
    when the receive step throws, the whole call throws -/
theorem truncated_stream_is_an_error (path : Bytes) (w : WorldT) (hp : Endpoint.hasCrLf path = false)
    (rs : Replies) (w' : WorldT)
    (hready : createDataConnectionT (str "RETR" ++ [SP] ++ path) Replies.empty w = (.ok (true, rs), w'))
    (hthrow : resultT (lift (dataRecv false w'.base.ttype)) w' = .throw) :
    resultT (downloadT path) w = .throw := by
  have hmk : lift (mkCmd "RETR" (some path)) w = (.ok (str "RETR" ++ [SP] ++ path), w) := by
    rw [L.lift_mkCmd]; simp [Endpoint.makeCommand, hp]
  unfold resultT at hthrow ⊢
  unfold downloadT ClientTls.scopedT
  simp only [L.bindT_eq, hmk, hready, if_true]
  have hget : getT w' = (.ok w', w') := rfl
  simp only [hget]
  rcases hl : lift (dataRecv false w'.base.ttype) w' with ⟨r, w2⟩
  rw [hl] at hthrow
  simp only at hthrow
  subst hthrow
  rfl

end Ftp.Props.C11
