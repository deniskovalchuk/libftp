import Ftp.Lemmas.ReaderTotal
/-
  C08 (control-reader part) - whatever bytes the server sends and wherever it closes or fails, a receive step ends
  in a reply or an error; it never spins once the transport has reported the end, never buffers more than 8192
  bytes, and no decimal field is ever wrapped.
  Model: `Ftp.Reader`.
-/
namespace Ftp.Props.C08
open Ftp.Reader Ftp.Utils

/-- reading one line always terminates within the fuel the model supplies -/
theorem readLine_total (buf : Bytes) (net : Net) : (readLine buf net).1 ≠ .fuel :=
  (readLine_spec_T buf net).noFuel

/-- a receive step always terminates within the fuel the model supplies: for every buffer content, every remaining
    server output, every delivery schedule and both ways the transport can end -/
theorem recv_total (c : Ctl) (net : Net) : (recv c net).1 ≠ .fuel :=
  (recv_spec c net).noFuel

/-- once the transport has reported the end of the stream (end-of-file or an error), the step ends: the transport is
    asked at most once more -/
theorem recv_reads_at_end (c : Ctl) (net : Net) : (recv c net).2.2.readsAtEnd ≤ net.readsAtEnd + 1 :=
  (recv_spec c net).reads

/-- ... and a step that hit the end reports an error (it does not return an empty or partial reply) -/
theorem recv_end_is_error (c : Ctl) (net : Net) (h : (recv c net).2.2.readsAtEnd = net.readsAtEnd + 1) :
    (recv c net).1 = .error :=
  (recv_spec c net).atEnd h

/-- the buffer never grows beyond 8192 bytes -/
theorem buffer_bounded (c : Ctl) (net : Net) (h : c.buf.length ≤ maxLine) :
    (recv c net).2.1.buf.length ≤ maxLine :=
  (recv_spec c net).buf h

/-- a control line that exceeds 8192 bytes without a terminator is refused, and nothing beyond the 8192 bytes is taken
    from the transport -/
theorem long_line_refused (c : Ctl) (net : Net) (hb : c.buf.length ≤ maxLine)
    (hlen : maxLine ≤ (c.buf ++ net.stream).length)
    (hno : ∀ b ∈ (c.buf ++ net.stream).take maxLine, b ≠ CR ∧ b ≠ LF) :
    (recv c net).1 = .error ∧ (recv c net).2.1.buf = (c.buf ++ net.stream).take maxLine := by
  have hl := readLineF_long (net.stream.length + 1) c.buf net (by omega) hb hlen hno
  rw [recv_eq]
  change (readLine c.buf net).1 = _ ∧ (readLine c.buf net).2.1 = _ at hl
  generalize readLine c.buf net = r at hl
  obtain ⟨res, buf0, net0⟩ := r
  obtain ⟨l1, l2⟩ := hl
  simp only at l1 l2
  subst l1 l2
  exact ⟨rfl, rfl⟩

/-- decimal fields are never wrapped: a parsed value is the decimal value of the digits written and fits the type -/
theorem no_wrap (s : Bytes) (n : Nat) :
    (parseU8 s = some n → isDigits s = true ∧ n = decValue s ∧ n < 2 ^ 8) ∧
    (parseU16 s = some n → isDigits s = true ∧ n = decValue s ∧ n < 2 ^ 16) ∧
    (parseU32 s = some n → isDigits s = true ∧ n = decValue s ∧ n < 2 ^ 32) ∧
    (parseU64 s = some n → isDigits s = true ∧ n = decValue s ∧ n < 2 ^ 64) := by
  have hu : (255 : Nat) ≤ u64max ∧ (65535 : Nat) ≤ u64max ∧ (4294967295 : Nat) ≤ u64max := by unfold u64max; omega
  refine ⟨fun h => ?_, fun h => ?_, fun h => ?_, fun h => ?_⟩
  · obtain ⟨h1, h2, h3⟩ := parseBounded_some hu.1 h; exact ⟨h1, h2, by omega⟩
  · obtain ⟨h1, h2, h3⟩ := parseBounded_some hu.2.1 h; exact ⟨h1, h2, by omega⟩
  · obtain ⟨h1, h2, h3⟩ := parseBounded_some hu.2.2 h; exact ⟨h1, h2, by omega⟩
  · rw [parseU64_spec] at h
    split at h
    · rename_i hc; cases h; exact ⟨hc.1, rfl, by have := hc.2; unfold u64max at this; omega⟩
    · cases h

/-- the defect that was repaired: the server closes inside a multi-line reply -/
example : (recv {} { stream := str "220-a\r\n", sizes := [], fin := .eof }).1 = .error ∧
    (recv {} { stream := str "220-a\r\n", sizes := [], fin := .eof }).2.2.readsAtEnd = 1 := by decide +kernel

end Ftp.Props.C08
