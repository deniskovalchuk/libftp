import Ftp.Generated.ClientFacts
import Ftp.Props.C10
/-
  C10, tie to the source by translation (tools/gen_source_facts.py, re-run on every check):
  * the fourteen member functions of ftp::client whose body is `make_command(VERB[, ARG])` + `process_command(command)`
    are translated from src/client.cpp into programs of the model's monad (`Ftp.Generated.*`); they are proved to be the
    model's `simple VERB ARG` for the verb the property prescribes, and therefore to send exactly that one line;
  * the command literals every member function names, and the reply codes it compares with, are those the model and the
    reference automaton use; the four decisive codes (120, 331, 350, 426) are the ones the reference automaton branches on.
  A change of a verb, of a literal or of a decisive code in the source breaks one of these obligations.
-/
namespace Ftp.Props.C10
open Ftp.Client

/-- the translated simple calls are the model's `simple` with the verb the property names for that call -/
theorem simple_calls_are_the_sources :
    (∀ p, Generated.change_current_directory p = simple "CWD" (some p)) ∧
    (Generated.change_current_directory_up = simple "CDUP" none) ∧
    (Generated.get_current_directory = simple "PWD" none) ∧
    (∀ p, Generated.remove_file p = simple "DELE" (some p)) ∧
    (∀ p, Generated.create_directory p = simple "MKD" (some p)) ∧
    (∀ p, Generated.remove_directory p = simple "RMD" (some p)) ∧
    (∀ p, Generated.get_file_size p = simple "SIZE" (some p)) ∧
    (∀ p, Generated.get_file_modified_time p = simple "MDTM" (some p)) ∧
    (∀ p, Generated.get_status p = simple "STAT" p) ∧
    (Generated.get_system_type = simple "SYST" none) ∧
    (∀ c, Generated.get_help c = simple "HELP" c) ∧
    (Generated.get_site_commands = simple "SITE" (some (str "HELP"))) ∧
    (∀ c, Generated.send_site_command c = simple "SITE" (some c)) ∧
    (Generated.send_noop = simple "NOOP" none) :=
  ⟨fun _ => rfl, rfl, rfl, fun _ => rfl, fun _ => rfl, fun _ => rfl, fun _ => rfl, fun _ => rfl, fun _ => rfl, rfl,
   fun _ => rfl, rfl, fun _ => rfl, rfl⟩

/-- ... and so every translated call that returns has sent exactly the one line the property prescribes for it
    (`Op.simple v a` runs `simple v a`, which by the theorem above is the translation of the member function) -/
theorem translated_simple_call_sends_its_line (v : String) (a : Option Bytes) (w : World)
    (q : List Ftp.Props.C01.WfReply) (sc : List Session.SGroup)
    (hstep : Session.InStep w q) (hsc : w.script = sc.map Session.SGroup.enc) (hwf : Session.WfScript sc)
    (hret : ∃ o, Session.result (Session.Op.simple v a).run w = .ok o) :
    (Session.writes (Session.added (Session.Op.simple v a).run w)).map Session.lineOf = [Spec.line v a] := by
  have h := commands_follow_reference (.simple v a) w q sc (Or.inl hstep) hsc hwf hret
  rw [h]
  simp [Spec.expectedLines, callOf]

/-- only SIZE and MDTM hand their reply to a typed-reply constructor (C16 judges what those make of it) -/
theorem typed_wrappers_are_the_sources :
    Generated.typedWrappers = [("get_file_size", "file_size_reply"), ("get_file_modified_time", "file_modified_time_reply")] :=
  rfl

/-- the command literals of src/client.cpp, function by function, are the ones the model's operations use -/
theorem command_literals_are_the_sources :
    Generated.commandLiterals =
      [("connect", ["USER", "PASS", "AUTH TLS"]), ("logout", ["REIN"]),
       ("change_current_directory", ["CWD"]), ("change_current_directory_up", ["CDUP"]), ("get_current_directory", ["PWD"]),
       ("upload_file", ["STOU", "STOR"]), ("append_file", ["APPE"]), ("get_file_list", ["NLST", "LIST"]),
       ("rename", ["RNFR", "RNTO"]), ("remove_file", ["DELE"]), ("create_directory", ["MKD"]), ("remove_directory", ["RMD"]),
       ("get_file_size", ["SIZE"]), ("get_file_modified_time", ["MDTM"]), ("get_status", ["STAT"]),
       ("get_system_type", ["SYST"]), ("get_help", ["HELP"]), ("get_site_commands", ["SITE", "HELP"]),
       ("send_site_command", ["SITE"]), ("send_noop", ["NOOP"]), ("disconnect", ["QUIT"]),
       ("make_type_command", ["TYPE", "I", "TYPE", "A"]), ("process_login", ["USER", "PASS", "PBSZ 0", "PROT P"]),
       ("process_download", ["RETR"]), ("process_abort", ["ABOR"]), ("process_epsv_command", ["EPSV"]),
       ("make_eprt_command", ["EPRT"]), ("process_pasv_command", ["PASV"]), ("make_port_command", ["PORT"])] :=
  rfl

/-- no member function compares a reply code with anything but these -/
theorem compared_codes_are_the_sources :
    Generated.comparedCodes = [("connect", [120]), ("rename", [350]), ("process_login", [331]), ("process_abort", [426])] :=
  rfl

/-- the reference automaton branches on the codes the source compares with: RNTO only after the source's code ... -/
theorem rename_advances_on_the_sources_code (s : Spec.Settings) (a b : Bytes) (c : Nat) (cs : List Nat) (l : Bytes) :
    Spec.expectedLines s (.rename a b) (c :: cs) l =
      Spec.line "RNFR" (some a) :: (if c = Generated.renameToAfter then [Spec.line "RNTO" (some b)] else []) := by
  have h : Generated.renameToAfter = 350 := by decide
  rw [h]; rfl

/-- ... PASS only after the source's code, and a login that is refused at USER stops there -/
theorem login_advances_on_the_sources_code (s : Spec.Settings) (u p : Bytes) (c : Nat) (cs : List Nat) :
    (c = Generated.loginPassAfter →
      (Spec.loginLines s u p (c :: cs)).take 2 = [Spec.line "USER" (some u), Spec.line "PASS" (some p)]) ∧
    (c ≠ Generated.loginPassAfter → Spec.negative c = true → Spec.loginLines s u p (c :: cs) = [Spec.line "USER" (some u)]) := by
  have h : Generated.loginPassAfter = 331 := by decide
  rw [h]
  constructor
  · intro hc; subst hc; simp [Spec.loginLines]
  · intro hc hn; simp [Spec.loginLines, hc, hn]

/-- the model's operations compare with the very codes of the source -/
theorem model_compares_the_sources_codes :
    (∀ a b, rename a b = (do
      let c1 ← mkCmd "RNFR" (some a)
      let c2 ← mkCmd "RNTO" (some b)
      let (r, rs) ← processCommandInto c1 Replies.empty
      if r.code == Generated.renameToAfter then
        let (_, rs) ← processCommandInto c2 rs
        pure rs
      else pure rs)) ∧
    (∀ rs, processAbort rs = (do
      let c ← mkCmd "ABOR" none
      let (r, rs) ← processCommandInto c rs
      if r.code == Generated.abortSecondReplyAfter then
        let (_, rs) ← recvInto rs
        pure rs
      else pure rs)) :=
  ⟨fun _ _ => rfl, fun _ => rfl⟩

end Ftp.Props.C10
