import Ftp.Spec.Pure
/-
  C09 - one command line per protocol step; caller text cannot inject commands.
  Model (this part): `Ftp.Endpoint.makeCommand` (client::make_command) followed by the CR LF that
  `control_connection::send` appends.
-/
namespace Ftp.Props.C09
open Ftp.Endpoint

/-- the bytes put on the wire for one command: the line and a single CR LF -/
def wire (line : Bytes) : Bytes := line ++ [CR, LF]

/-- number of line breaks (CR or LF bytes) in a byte string -/
def breaks (s : Bytes) : Nat := s.countP (fun c => c = CR || c = LF)

private theorem hasCrLf_false_iff (s : Bytes) : hasCrLf s = false ↔ breaks s = 0 := by
  unfold hasCrLf breaks
  rw [List.countP_eq_zero]
  simp [List.any_eq_false]

/-- the model is the reference function -/
theorem makeCommand_eq_spec (verb : Bytes) (arg : Option Bytes) :
    makeCommand verb arg = Spec.commandLine verb arg := rfl

/-- a command whose caller text is free of CR and LF is transmitted as exactly one line: verb, one space, the text
    unchanged, and the only line break on the wire is the final CR LF -/
theorem one_line (verb arg : Bytes) (hv : hasCrLf verb = false) (ha : hasCrLf arg = false) :
    makeCommand verb (some arg) = some (verb ++ [SP] ++ arg) ∧
    breaks (wire (verb ++ [SP] ++ arg)) = 2 ∧
    (wire (verb ++ [SP] ++ arg)).drop (verb.length + 1 + arg.length) = [CR, LF] := by
  refine ⟨by simp [makeCommand, ha], ?_, ?_⟩
  · have h1 := (hasCrLf_false_iff verb).1 hv
    have h2 := (hasCrLf_false_iff arg).1 ha
    unfold breaks at *
    simp only [CR, LF] at h1 h2
    simp [wire, List.countP_append, CR, LF, SP, h1, h2]
  · have : verb.length + 1 + arg.length = (verb ++ [SP] ++ arg).length := by simp; omega
    rw [wire, this, List.drop_left]

/-- a command without argument is the verb alone -/
theorem no_argument (verb : Bytes) : makeCommand verb none = some verb := rfl

/-- caller text containing CR or LF is rejected: no command line is produced at all -/
theorem reject_crlf (verb arg : Bytes) (h : hasCrLf arg = true) : makeCommand verb (some arg) = none := by
  simp [makeCommand, h]

/-- conversely, whatever is accepted contains no line break beyond those of the verb -/
theorem accepted_has_no_break (verb arg line : Bytes) (hv : hasCrLf verb = false)
    (h : makeCommand verb (some arg) = some line) : hasCrLf line = false ∧ line = verb ++ [SP] ++ arg := by
  simp only [makeCommand] at h
  by_cases ha : hasCrLf arg = true
  · simp [ha] at h
  · have ha' : hasCrLf arg = false := by simpa using ha
    simp only [ha', Bool.false_eq_true, if_false, Option.some.injEq] at h
    subst h
    refine ⟨?_, rfl⟩
    rw [hasCrLf_false_iff] at *
    unfold breaks at *
    simp only [CR, LF] at hv ha'
    simp [List.countP_append, hv, ha', CR, LF, SP]

example : makeCommand (str "DELE") (some (str "a\r\nDELE b")) = none ∧
    makeCommand (str "DELE") (some (str "a b")) = some (str "DELE a b") := by decide +kernel

end Ftp.Props.C09
