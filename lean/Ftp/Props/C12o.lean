import Ftp.Props.C03o
import Ftp.Lemmas.ClientCancel
/-
  C12 at the level of the whole operation: a download that is cancelled by its callback after j blocks.
-/
namespace Ftp.Props.C12
open Ftp.Client Ftp.Session Ftp.Props.C01

/-- the callback events of a trace, in order -/
def cbEvents (tr : List Ev) : List Ev := tr.filter fun | .cbPoll _ | .cbBegin | .cbNotify _ | .cbEnd => true | _ => false

-- the proof does not use `hconn0`
set_option linter.unusedVariables false in
/-- a binary download with a callback that reports cancellation at the poll after the j-th full block (j >= 1), against a
    server that is still sending (it answers ABOR with 426 and then a second reply), in all four data-connection methods,
    in a session that is in step: exactly j blocks of 8192 bytes reach the sink, the callback sees
    poll, begin, (notify 8192, poll) x j, end, poll; ABOR is the last command written; the data connection is closed
    without a graceful shutdown; the replies returned are set-up, preliminary, and the two replies to ABOR; no descriptor
    is left and the session is in step again -/
theorem cancelled_download_aborts (path : Bytes) (w : World) (s m a1 a2 : WfReply) (payload : Bytes) (j : Nat)
    (moreReads : List (Option Nat)) (morePolls : List Bool) (rest : List SGroup)
    (hstep : InStep w []) (hconn0 : w.conn = none) (hpath : Endpoint.hasCrLf path = false)
    (hs : s.wf) (hm : m.wf) (ha1 : a1.wf) (ha2 : a2.wf)
    (hsetup : C03.SetupOk w s) (hmain : m.code < 400) (h426 : a1.code = 426)
    (hsc : w.script = (⟨[s], none⟩ :: ⟨[m], some (.send payload)⟩ :: ⟨[a1, a2], none⟩ :: rest).map SGroup.enc)
    (hclose : ∀ b ∈ w.closeFails, b = false)
    (hbin : w.ttype = .binary) (hj : 1 ≤ j) (hlen : j * 8192 ≤ payload.length)
    (hreads : w.dataReads = List.replicate j (some 8192) ++ moreReads)
    (hpolls : w.polls = List.replicate j false ++ true :: morePolls) (hnc : w.cancelled = false)
    (hsink : w.sinkFailAt = none) (hsil : w.sinkSilent = false) :
    ∃ rs, result (Op.download path true).run w = .ok (.replies rs) ∧
      rs.list = [replyOf s, replyOf m, replyOf a1, replyOf a2] ∧
      (after (Op.download path true).run w).sink = w.sink ++ payload.take (j * 8192) ∧
      cbEvents (added (Op.download path true).run w) =
        Ev.cbPoll false :: Ev.cbBegin :: ((List.replicate (j - 1) [Ev.cbNotify 8192, Ev.cbPoll false]).flatten ++
          [Ev.cbNotify 8192, Ev.cbPoll true, Ev.cbEnd, Ev.cbPoll true]) ∧
      (writes (added (Op.download path true).run w)).getLast? = some (str "ABOR\r\n") ∧
      (∀ d, Ev.dataShutdown d ∉ added (Op.download path true).run w) ∧
      (after (Op.download path true).run w).conn = none ∧
      (a2.code ≠ 421 → InStep (after (Op.download path true).run w) []) := by
  have hcb : ∀ tr : List Ev, cbEvents tr = tr.filter isCb := fun tr =>
    congrArg (tr.filter ·) (funext fun e => by cases e <;> rfl)
  obtain ⟨hacc, hpass, hv6⟩ := hsetup
  rw [hcb]
  exact Ftp.Client.CancelL.cancelled_download_core path w s m a1 a2 payload j moreReads morePolls rest hstep hpath
    hs hm ha1 ha2 hacc hpass hv6 hmain h426 hsc hclose hbin hj hlen hreads hpolls hnc hsink hsil

/-! ### non-vacuity: the hypotheses are satisfiable (the theorem is instantiated on concrete worlds) -/

private def r229 : WfReply := ⟨229, [⟨str "229 ok (|||5000|)", true⟩]⟩
private def r200 : WfReply := ⟨200, [⟨str "200 ok", true⟩]⟩
private def r150 : WfReply := ⟨150, [⟨str "150 go", true⟩]⟩
private def r426 : WfReply := ⟨426, [⟨str "426 aborted", true⟩]⟩
private def r226 : WfReply := ⟨226, [⟨str "226 abor ok", true⟩]⟩

private theorem r229_wf : r229.wf :=
  SessL.wf_single (by decide +kernel)

private theorem r200_wf : r200.wf :=
  SessL.wf_single (by decide +kernel)

private theorem r150_wf : r150.wf :=
  SessL.wf_single (by decide +kernel)

private theorem r426_wf : r426.wf :=
  SessL.wf_single (by decide +kernel)

private theorem r226_wf : r226.wf :=
  SessL.wf_single (by decide +kernel)

/-- the payload of the non-vacuity examples: two full blocks and 50 bytes more -/
def payloadCx : Bytes := List.replicate (2 * 8192 + 50) 65

/-- an EPSV download whose callback reports cancellation at the poll after the second block -/
def worldCx : World :=
  { mode := .passive, ttype := .binary, rfc := true, connected := true, connectOks := [true],
    script := ([⟨[r229], none⟩, ⟨[r150], some (.send payloadCx)⟩, ⟨[r426, r226], none⟩] : List SGroup).map SGroup.enc,
    dataReads := [some 8192, some 8192, some 100, some 0],
    polls := [false, false, true, false] }

/-- ... and a PORT download that is cancelled at the poll after the first block -/
def worldCxA : World :=
  { mode := .active, ttype := .binary, rfc := false, connected := true, listenPorts := [4000],
    script := ([⟨[r200], none⟩, ⟨[r150], some (.send payloadCx)⟩, ⟨[r426, r226], none⟩] : List SGroup).map SGroup.enc,
    dataReads := [some 8192, some 8192, some 100, some 0],
    polls := [false, true, false] }

private theorem payloadCx_length : payloadCx.length = 2 * 8192 + 50 := by
  rw [payloadCx, List.length_replicate]

/-- passive mode, j = 2: the theorem applies, and what it says on this world -/
example :
    cbEvents (added (Op.download (str "f") true).run worldCx) =
      [.cbPoll false, .cbBegin, .cbNotify 8192, .cbPoll false, .cbNotify 8192, .cbPoll true, .cbEnd, .cbPoll true] ∧
    (after (Op.download (str "f") true).run worldCx).sink = payloadCx.take 16384 ∧
    (writes (added (Op.download (str "f") true).run worldCx)).getLast? = some (str "ABOR\r\n") ∧
    InStep (after (Op.download (str "f") true).run worldCx) [] := by
  obtain ⟨rs, _, _, h3, h4, h5, _, _, h8⟩ :=
    cancelled_download_aborts (str "f") worldCx r229 r150 r426 r226 payloadCx 2 [some 100, some 0] [false] []
      ⟨rfl, .inl rfl, Nat.zero_le _, by simp⟩ rfl (by decide) r229_wf r150_wf r426_wf r226_wf
      ⟨by decide, fun _ => ⟨rfl, by decide⟩, fun h => (by cases h)⟩ (by decide) rfl rfl (fun b hb => (by cases hb)) rfl
      (by decide) (by rw [payloadCx_length]; decide) rfl rfl rfl rfl rfl
  exact ⟨by simpa using h4, by simpa [worldCx] using h3, h5, h8 (by decide)⟩

/-- active mode, j = 1 -/
example :
    cbEvents (added (Op.download (str "f") true).run worldCxA) =
      [.cbPoll false, .cbBegin, .cbNotify 8192, .cbPoll true, .cbEnd, .cbPoll true] ∧
    (after (Op.download (str "f") true).run worldCxA).sink = payloadCx.take 8192 ∧
    (after (Op.download (str "f") true).run worldCxA).conn = none := by
  obtain ⟨rs, _, _, h3, h4, _, _, h7, _⟩ :=
    cancelled_download_aborts (str "f") worldCxA r200 r150 r426 r226 payloadCx 1
      [some 8192, some 100, some 0] [false] []
      ⟨rfl, .inl rfl, Nat.zero_le _, by simp⟩ rfl (by decide) r200_wf r150_wf r426_wf r226_wf
      ⟨by decide, fun h => (by cases h), fun _ _ => rfl⟩ (by decide) rfl rfl (fun b hb => (by cases hb)) rfl
      (by decide) (by rw [payloadCx_length]; decide) rfl rfl rfl rfl rfl
  exact ⟨by simpa using h4, by simpa [worldCxA] using h3, h7⟩

end Ftp.Props.C12
