import Ftp.Model.Client
import Ftp.Spec.Wire
/-
  Shared vocabulary of the client-level property theorems (C02, C03, C04, C06, C07, C09, C10, C12, C13, C14, C17):
  the API calls as one inductive type, the events a call adds to the trace, well-formed server scripts, and the
  "in step" invariant that ties the byte-level reader (C01) to the framed view of the session.
-/
namespace Ftp.Session
open Ftp Ftp.Client Ftp.Props.C01

/-- the result of an API call -/
inductive Out
  | reply (r : Reply)
  | replies (rs : Replies)
  | listing (rs : Replies) (text : Bytes)
  | opt (r : Option Reply)
  deriving Repr

/-- the API calls of `ftp::client` that touch the network -/
inductive Op
  | connect (host : Bytes) (port : Nat) (cred : Option (Bytes × Bytes))
  | login (user pass : Bytes)
  | logout
  | simple (verb : String) (arg : Option Bytes)
  | setType (t : TType)
  | rename (a b : Bytes)
  | download (path : Bytes) (cb : Bool)
  | upload (verb : String) (path : Bytes) (cb : Bool)
  | list (path : Option Bytes) (names : Bool)
  | disconnect (graceful : Bool)
  deriving Repr

def Op.run : Op → M Out
  | .connect h p c => do let r ← Client.connect h p c; pure (.replies r)
  | .login u p => do let r ← Client.login u p; pure (.replies r)
  | .logout => do let r ← Client.logout; pure (.reply r)
  | .simple v a => do let r ← Client.simple v a; pure (.reply r)
  | .setType t => do let r ← Client.setTransferType t; pure (.reply r)
  | .rename a b => do let r ← Client.rename a b; pure (.replies r)
  | .download p cb => do let r ← Client.download p cb; pure (.replies r)
  | .upload v p cb => do let r ← Client.upload v p cb; pure (.replies r)
  | .list p n => do let r ← Client.fileList p n; pure (.listing r.1 r.2)
  | .disconnect g => do let r ← Client.disconnect g; pure (.opt r)

/-- the replies a result carries -/
def Out.replyList : Out → List Reply
  | .reply r => [r]
  | .replies rs => rs.list
  | .listing rs _ => rs.list
  | .opt (some r) => [r]
  | .opt none => []

/-- the world after running a program, and the events it added -/
def after {α} (m : M α) (w : World) : World := (m w).2
def result {α} (m : M α) (w : World) : Res α := (m w).1
def added {α} (m : M α) (w : World) : List Ev := (after m w).trace.drop w.trace.length

/-! ### projections of a trace -/

def writes (tr : List Ev) : List Bytes := tr.filterMap fun | .ctlWrite b => some b | _ => none
def received (tr : List Ev) : List Reply := tr.filterMap fun | .ctlReply c t => some ⟨c, t⟩ | _ => none

def isTranscript : Ev → Bool
  | .ctlConnect _ _ | .ctlWrite _ | .ctlWriteFail _ | .ctlReply _ _ | .listing _ => true
  | _ => false

def isObs : Ev → Bool
  | .obsConnected _ _ _ | .obsRequest _ _ | .obsReply _ _ _ | .obsFileList _ _ => true
  | _ => false

def isObsOf (o : Nat) : Ev → Bool
  | .obsConnected i _ _ | .obsRequest i _ | .obsReply i _ _ | .obsFileList i _ => i == o
  | _ => false

def isData : Ev → Bool        -- payload movement and user-stream events
  | .dataRead _ _ | .dataReadErr _ | .dataWrite _ _ | .dataWriteErr _ | .sinkWrite _ | .sinkWriteFail | .sinkFlush
  | .srcRead _ _ | .srcFail | .cbBegin | .cbNotify _ | .cbEnd => true
  | _ => false

def isCb : Ev → Bool
  | .cbPoll _ | .cbBegin | .cbNotify _ | .cbEnd => true
  | _ => false

/-- descriptors a trace opens / closes -/
def opened (tr : List Ev) : List Nat := tr.filterMap fun | .dataSocket d => some d | .dataAccept _ d => some d | _ => none
def closed (tr : List Ev) : List Nat := tr.filterMap fun | .dataClose d => some d | _ => none

/-- a command line without its CR LF -/
def lineOf (b : Bytes) : Bytes := b.take (b.length - 2)

/-! ### well-formed servers -/

/-- the script of a server whose every reply is a well-formed RFC 959 reply -/
structure SGroup where
  replies : List WfReply
  act : Option DataAct := none

def SGroup.enc (g : SGroup) : Group := { raws := g.replies.map WfReply.raw, act := g.act }

def WfScript (sc : List SGroup) : Prop := ∀ g ∈ sc, ∀ r ∈ g.replies, r.wf

def replyOf (r : WfReply) : Reply := ⟨r.code, r.text⟩

/-- the session is in step: the control connection is open and what is still unread (buffered or in flight) is exactly
    the encoding of the replies `q` the server has generated and the client has not yet consumed (possibly preceded by
    the LF of a CR LF pair that was cut between two reads) -/
def InStep (w : World) (q : List WfReply) : Prop :=
  w.connected = true ∧ Pending w.ctl w.net q ∧ w.ctl.buf.length ≤ Reader.maxLine ∧ (∀ r ∈ q, r.wf)

end Ftp.Session
