import Ftp.Model.Reader
/-
  The wire format of RFC 959 replies as the theorems of C01 and the client-level properties speak of it: a reply as a list
  of lines with their terminators, its bytes, the text a receive step must return for it, and what it means that the
  unread bytes of a connection are the encoding of the replies still to come.  (Definitions only, so that the client-level
  modules do not wait for the reader proofs.)
-/
namespace Ftp.Props.C01
open Ftp Ftp.Reader

/-- one line of a reply: its content and the terminator the server chose -/
structure Line where
  text : Bytes
  crlf : Bool
  deriving Repr, DecidableEq

def Line.enc (l : Line) : Bytes := l.text ++ (if l.crlf then [CR, LF] else [LF])

/-- content free of CR and LF, and the whole line (with terminator) shorter than the 8192-byte limit -/
def Line.ok (l : Line) : Prop := CR ∉ l.text ∧ LF ∉ l.text ∧ l.text.length + 2 < maxLine

def digits3 (code : Nat) : Bytes := [48 + code / 100, 48 + code / 10 % 10, 48 + code % 10]

/-- an RFC 959 reply as a list of raw lines -/
structure WfReply where
  code : Nat
  lines : List Line
  deriving Repr, DecidableEq

/-- single-line `ddd SP text`, or multi-line opened by `ddd-` and closed by the first later line that begins with the
    same `ddd` followed by a space (middle lines are arbitrary otherwise: they may start with digits, with another
    code, or with the same code followed by `-`) -/
def WfReply.wf (r : WfReply) : Prop :=
  100 ≤ r.code ∧ r.code ≤ 599 ∧ (∀ l ∈ r.lines, l.ok) ∧
  ((∃ t crlf, r.lines = [⟨digits3 r.code ++ SP :: t, crlf⟩]) ∨
   (∃ t0 c0 mids tn cn,
      r.lines = ⟨digits3 r.code ++ 45 :: t0, c0⟩ :: (mids ++ [⟨digits3 r.code ++ SP :: tn, cn⟩]) ∧
      ∀ m ∈ mids, isLastLine m.enc r.code = false))

/-- the bytes the server sends for the reply -/
def WfReply.raw (r : WfReply) : Bytes := (r.lines.map Line.enc).flatten

/-- the reply's bytes minus the final line terminator -/
def WfReply.text (r : WfReply) : Bytes :=
  (r.lines.dropLast.map Line.enc).flatten ++ (match r.lines.getLast? with | some l => l.text | none => [])

def WfReply.expected (r : WfReply) : RecvR := .reply r.code r.text

def streamOf (rs : List WfReply) : Bytes := (rs.map WfReply.raw).flatten

/-- what is still to come after some replies have been received: the not yet consumed bytes are exactly the encoding of
    the remaining replies, possibly preceded by the LF of a CR LF pair that was cut between two reads (and then the
    reader knows it: `skipLf`) -/
def Pending (c : Ctl) (net : Net) (rest : List WfReply) : Prop :=
  (c.buf ++ net.stream = streamOf rest) ∨ (c.skipLf = true ∧ c.buf ++ net.stream = LF :: streamOf rest)

end Ftp.Props.C01
