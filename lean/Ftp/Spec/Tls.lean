import Ftp.Model.ClientTls
/-
  The vocabulary in which the properties of the TLS layer (C11, C18, and C03t, C04t, C10t, C13t) speak of a run: the
  world after a program, its result, the events it added, and the projections of a TLS-level trace.  (Definitions only,
  so that the lemmas about the TLS layer can speak of them before the property file states its theorems.)
-/
namespace Ftp.Props.C11
open Ftp.Client Ftp.ClientTls

def afterT {α} (m : MT α) (w : WorldT) : WorldT := (m w).2
def resultT {α} (m : MT α) (w : WorldT) : Res α := (m w).1
def addedT {α} (m : MT α) (w : WorldT) : List EvT := (afterT m w).trace.drop w.trace.length

/-- command lines written while the control channel is not protected -/
def plainWrites (tr : List EvT) : List Bytes := tr.filterMap fun | .ev false (.ctlWrite b) => some b | _ => none
/-- all command lines written -/
def allWrites (tr : List EvT) : List Bytes := tr.filterMap fun | .ev _ (.ctlWrite b) => some b | _ => none
/-- payload movement on the data connection -/
def isPayload : EvT → Bool
  | .ev _ (.dataRead _ _) | .ev _ (.dataWrite _ _) | .ev _ (.sinkWrite _) | .ev _ (.srcRead _ _) => true
  | _ => false

def AUTH : Bytes := str "AUTH TLS\r\n"

end Ftp.Props.C11
